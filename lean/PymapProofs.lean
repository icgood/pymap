import PymapProofs.Lemmas.Assemble
import PymapProofs.C01
import PymapProofs.C02
import PymapProofs.C03
import PymapProofs.C03_copyuid
import PymapProofs.C04
import PymapProofs.C04_uidrw
import PymapProofs.C05
import PymapProofs.C06_loop
import PymapProofs.C07
import PymapProofs.C07_structure
import PymapProofs.C08
import PymapProofs.C09
import PymapProofs.C10
import PymapProofs.C10_copy
import PymapProofs.C10_seq
import PymapProofs.C10_server
import PymapProofs.C11
import PymapProofs.C11_dp
import PymapProofs.C12
import PymapProofs.C13
import PymapProofs.C14
import PymapProofs.C14_cancel
import PymapProofs.C15
import PymapProofs.C16
import PymapProofs.C16_done
import PymapProofs.C17
import PymapProofs.C18_astring
import PymapProofs.C18_flag
import PymapProofs.C18_framing
import PymapProofs.C18_modutf7
import PymapProofs.C18_number
import PymapProofs.C18_quoted
import PymapProofs.C18_seqset
import PymapProofs.C18_zone
import PymapProofs.C19
import PymapProofs.C19_single
import PymapProofs.C20
import PymapProofs.C20_file
import PymapProofs.C20_threading
