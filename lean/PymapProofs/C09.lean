import PymapModel.StartTls
import PymapProofs.C05
/-!
# C09 — what is advertised is what is enforced; nothing written in clear text behind STARTTLS is acted on inside TLS

In namespace `Pymap.C05`, beside the C09 theorems about `Conn.step` that `C05.lean` holds.
-/
namespace Pymap.C05
open Pymap.Conn

theorem handle_loginOff (s : St) (c : Cmd) :
    (handle s c).1.loginOff = s.loginOff ∨ (c = .starttls ∧ (handle s c).2 = .ok) := by
  -- one branch of `handle` writes `loginOff`: the STARTTLS that is still on offer
  fun_cases handle s c with
  | case5 => exact .inr ⟨rfl, rfl⟩     -- `.starttls` with `tlsAvail`
  | _ => exact .inl rfl

theorem step_loginOff (s : St) (c : Cmd) :
    (step s c).1.loginOff = s.loginOff ∨ (c = .starttls ∧ (step s c).2 = .ok) := by
  rw [step_blind St.loginOff]
  split
  · next h =>
    refine (handle_loginOff s c).imp_right fun ⟨hc, hok⟩ => ⟨hc, ?_⟩
    rw [step_of_ne_bad h.1 h.2 (by rw [hok]; nofun), hok]
  · exact Or.inl rfl

/-- what the last CAPABILITY response said about LOGINDISABLED, if one was sent, is what the connection enforces -/
def WInv (w : Wire) : Prop := ∀ b, w.adv = some b → b = w.st.loginOff

theorem WInv.init (lo tls : Bool) : WInv (Wire.init lo tls) := fun _ h => (Option.some.inj h).symm

theorem WInv.step (w : Wire) (c : Cmd) (h : WInv w) : WInv (wstep w c).1 := by
  intro b hb
  have hl := step_loginOff w.st c
  unfold wstep at hb
  dsimp only at hb
  split at hb
  · exact (Option.some.inj hb).symm
  · exact (Option.some.inj hb).symm
  · exact (Option.some.inj hb).symm
  · cases hb
  · next hne =>
    -- nothing advertised afresh, and the bit has not moved: the STARTTLS OK that would move it is the arm before
    rcases hl with hl | ⟨rfl, hok⟩
    · exact (h b hb).trans hl.symm
    · exact absurd hok (hne rfl)

theorem WInv.run : ∀ (cs : List Cmd) (w : Wire), WInv w → WInv (wrun w cs)
  | [], _, h => h
  | c :: cs, w, h => WInv.run cs _ (h.step w c)

/-- **what is advertised is what is enforced**, after every command sequence -/
theorem C09_advertised_enforced (lo tls : Bool) (cs : List Cmd) : WInv (wrun (Wire.init lo tls) cs) :=
  WInv.run cs _ (WInv.init lo tls)

/-- a LOGIN that is accepted was not sent against an advertised LOGINDISABLED -/
theorem C09_login_accepted_was_offered (lo tls : Bool) (cs : List Cmd) (who : Option Nat)
    (hok : (wstep (wrun (Wire.init lo tls) cs) (.login who)).2 = .ok) :
    (wrun (Wire.init lo tls) cs).adv ≠ some true := fun hadv =>
  (C09_logindisabled _ who (C09_advertised_enforced lo tls cs true hadv).symm).2 hok

example : (wrun (Wire.init true true) [.starttls, .capability]).adv = some false := by decide

/-- **No injection.** Whatever a client (or somebody in the middle) writes in clear text behind a STARTTLS that is answered OK has
no effect at all on the protected session: the state after the handshake and everything sent inside TLS is the state that STARTTLS
and the TLS traffic alone produce. -/
theorem C09_starttls_no_injection (s : St) (segment after : List Cmd) (h : (step s .starttls).2 = .ok) :
    runAcross true s segment after = run (step s .starttls).1 after := by
  simp [runAcross, h]

/-- **as found (D82)**: a LOGIN that travelled in clear text while LOGINDISABLED was advertised authenticates the connection
— the clear-text segment is read with the capabilities of the protected session -/
theorem starttls_injection_as_found :
    (St.init true true).loginOff = true ∧
    (runAcross false (St.init true true) [.login (some 1)] []).user = some 1 ∧
    (runAcross true (St.init true true) [.login (some 1)] []).user = none := by decide

end Pymap.C05
