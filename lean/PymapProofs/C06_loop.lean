import PymapModel.Loop
/-!
# C06 — every input is answered (the dispatch-loop part)
-/
namespace Pymap.C06
open Pymap.Loop

/-- the outcome table of `handle` by what is written: a tagged completion and the loop goes on; BYE and the tagged completion, and
it ends; or a bare BYE, which is the internal-error one only for the two outcomes that are internal errors -/
theorem handle_cases (s : St) (o : Outcome) :
    ((handle s o).1 = [.tagged] ∧ (handle s o).2.1 = true) ∨
    ((handle s o).1 = [.bye, .tagged] ∧ (handle s o).2.1 = false) ∨
    ((handle s o).1 = [.bye] ∧ (o = .cancelled ∨ o = .connLost)) ∨
    ((handle s o).1 = [.byeServerBug] ∧ (o = .other ∨ o = .writeFails)) := by
  fun_cases handle s o with
  | case1 => exact .inr (.inl ⟨rfl, rfl⟩)                   -- `.resp true _`, too many bad commands: BYE, the completion, the end
  -- `.resp true terminal` below the limit, `.resp false terminal`, `.responseError terminal`: a completion; it carries a BYE,
  -- and ends the loop, when it is terminal
  | case2 terminal | case3 _ terminal | case4 terminal =>
    cases terminal with
    | false => exact .inl ⟨rfl, rfl⟩
    | true => exact .inr (.inl ⟨rfl, rfl⟩)
  | case5 | case6 => exact .inl ⟨rfl, rfl⟩                  -- `.authError`, `.timeout`
  | case7 => exact .inr (.inr (.inl ⟨rfl, .inl rfl⟩))        -- `.cancelled`
  | case8 => exact .inr (.inr (.inl ⟨rfl, .inr rfl⟩))        -- `.connLost`
  | case9 => exact .inr (.inr (.inr ⟨rfl, .inl rfl⟩))        -- `.other`
  | case10 => exact .inr (.inr (.inr ⟨rfl, .inr rfl⟩))       -- `.writeFails`

/-- **Answered.** Whatever way the processing of a command line ends, something is written for it: a
tagged completion, or a BYE; and the connection is never closed without a BYE having been written. -/
theorem C06_answered (s : St) (o : Outcome) :
    let r := handle s o
    r.1 ≠ [] ∧ (r.2.1 = false → (Wire.bye ∈ r.1 ∨ Wire.byeServerBug ∈ r.1)) := by
  rcases handle_cases s o with ⟨h, h'⟩ | ⟨h, -⟩ | ⟨h, -⟩ | ⟨h, -⟩ <;> simp [*]

/-- an internal-error BYE is written only for the two outcome classes that *are* internal errors;
every modelled outcome class gets a tagged completion or an ordinary BYE -/
theorem C06_no_serverbug (s : St) (o : Outcome) (h1 : o ≠ .other) (h2 : o ≠ .writeFails) :
    Wire.byeServerBug ∉ (handle s o).1 := by
  rcases handle_cases s o with ⟨h, -⟩ | ⟨h, -⟩ | ⟨h, -⟩ | ⟨-, h | h⟩
  · simp [h]
  · simp [h]
  · simp [h]
  · exact absurd h h1
  · exact absurd h h2

/-- a command line whose processing ends normally (response or `ResponseError`) gets its tagged completion -/
theorem C06_tagged (s : St) (o : Outcome)
    (h : ∃ b t, o = .resp b t ∨ o = .responseError t ∨ o = .authError ∨ o = .timeout) :
    Wire.tagged ∈ (handle s o).1 := by
  rcases handle_cases s o with ⟨h', -⟩ | ⟨h', -⟩ | ⟨-, h' | h'⟩ | ⟨-, h' | h'⟩
  · simp [h']
  · simp [h']
  all_goals subst h'; simp at h

example : handle ⟨4⟩ (.resp true false) = ([.bye, .tagged], false, ⟨5⟩) := by decide

end Pymap.C06
