import PymapModel.Framing
import PymapProofs.Lemmas.Span
import PymapProofs.C18_number
/-!
# C18 / C06 — the bytes of a literal never take part in the framing of a command

Whatever the literals contain — including bytes that look like the announcement of another literal — the reader takes exactly
the bytes of the command the client sent and leaves exactly what follows it.
-/
namespace Pymap.C18
open Pymap.Grammar Pymap.Wire Pymap.Framing

theorem readLine_split (t r : List Nat) (h : 10 ∉ t) : readLine (t ++ 10 :: r) = (t ++ [10], r) := by
  induction t with
  | nil => exact if_pos rfl
  | cons b t ih =>
    have ⟨hb, ht⟩ := not_or.1 (mt List.mem_cons.2 h)
    rw [List.cons_append, readLine, if_neg (Ne.symm hb), ih ht]
    rfl

theorem spanDigits_eq : ∀ l, spanDigits l = (l.takeWhile isDigit, l.dropWhile isDigit) :=
  scanner_eq_span isDigit rfl fun _ _ => rfl

theorem spanDigits_append (ds rest : List Nat) (hd : ∀ b ∈ ds, isDigit b = true) (hr : firstIsDigit rest = false) :
    spanDigits (ds ++ rest) = (ds, rest) :=
  scanner_append spanDigits_eq hd (by cases rest <;> exact hr)

theorem litLen_marker (text : List Nat) (n : Nat) : litLen (text ++ marker n) = some n := by
  have hrev : (text ++ marker n).reverse = 10 :: 13 :: 125 :: 43 :: ((digits n).reverse ++ 123 :: text.reverse) := by
    simp only [marker, List.cons_append, List.nil_append, List.reverse_append, List.reverse_cons, List.reverse_nil,
      List.append_assoc]
  have hne : (digits n).reverse.isEmpty = false := by simpa using digits_ne_nil n
  simp only [litLen, hrev, spanDigits_append _ (123 :: text.reverse) (fun b hb => digits_all_digit n b (List.mem_reverse.1 hb)) rfl,
    hne, Bool.false_eq_true, if_false, List.reverse_reverse, readNum_digits_nil]

theorem readCmd_last (fuel : Nat) {t : List Nat} (r : List Nat) (ht : 10 ∉ t) (hl : litLen (t ++ [10]) = none) :
    readCmd (fuel + 1) (t ++ 10 :: r) = some (t ++ [10], r) := by
  simp only [readCmd, readLine_split t r ht, List.getLast?_concat, bne_self_eq_false, Bool.false_eq_true, if_false, hl]

/-- the announced bytes are taken unread, and the command goes on behind them -/
theorem readCmd_lit (fuel : Nat) {t lit r c r' : List Nat} (ht : 10 ∉ t) (hl : litLen (t ++ [10]) = some lit.length)
    (hc : readCmd fuel r = some (c, r')) :
    readCmd (fuel + 1) (t ++ 10 :: (lit ++ r)) = some (t ++ [10] ++ lit ++ c, r') := by
  simp only [readCmd, readLine_split t _ ht, List.getLast?_concat, bne_self_eq_false, Bool.false_eq_true, if_false, hl,
    List.length_append, Nat.not_lt.2 (Nat.le_add_right ..), List.drop_left, List.take_left, hc]

/-- **framing**: for every sequence of text pieces and literals — the literals arbitrary — the reader takes exactly the command -/
theorem C18_framing : ∀ (ss : List Seg) (final rest : List Nat) (fuel : Nat),
    (∀ s ∈ ss, 10 ∉ s.text) → 10 ∉ final → litLen (final ++ [13, 10]) = none → ss.length < fuel →
    readCmd fuel (wire ss final ++ rest) = some (wire ss final, rest) := by
  intro ss final rest fuel ht hf hl hfuel
  induction ss generalizing fuel with
  | nil =>
    cases fuel with
    | zero => exact absurd hfuel (Nat.not_lt_zero _)
    | succ f =>
      -- the last line without its LF
      have h13 : 10 ∉ final ++ [13] := fun h => (List.mem_append.1 h).elim hf (by decide)
      have := readCmd_last f rest h13 (by rw [List.append_assoc]; exact hl)
      rw [List.append_assoc, List.append_assoc] at this
      rw [wire, List.append_assoc]
      exact this
  | cons s ss ih =>
    cases fuel with
    | zero => exact absurd hfuel (Nat.not_lt_zero _)
    | succ f =>
      have ⟨hts, htt⟩ := List.forall_mem_cons.1 ht
      -- the first line, without its LF, is the text and the announcement
      have hm : s.text ++ marker s.lit.length = s.text ++ ([123] ++ digits s.lit.length ++ [43, 125, 13]) ++ [10] := by
        rw [List.append_assoc, List.append_assoc _ _ [10]]; rfl
      have hl := litLen_marker s.text s.lit.length
      rw [hm] at hl
      -- re-bracket the wire as `first line ++ 10 :: (literal ++ (what follows))`, the shape `readCmd_lit` reads
      rw [wire, hm, List.append_assoc _ (wire ss final) rest, List.append_assoc _ s.lit, List.append_assoc _ [10]]
      exact readCmd_lit f (by simp [hts, digits_no_lf]) hl (ih f htt (Nat.lt_of_succ_lt_succ hfuel))

-- a literal whose bytes end like an announcement ("{5+}"), followed by the end of the command: read as one command
example : readCmd 5 (wire [⟨[65, 32], [123, 53, 43, 125]⟩] [] ++ [66, 13, 10]) = some (wire [⟨[65, 32], [123, 53, 43, 125]⟩] [], [66, 13, 10]) :=
  C18_framing [⟨[65, 32], [123, 53, 43, 125]⟩] [] [66, 13, 10] 5 (by simp) (by simp) (by decide) (by simp)

end Pymap.C18
