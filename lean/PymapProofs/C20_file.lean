import PymapModel.FileLock
import PymapProofs.Lemmas.Run
/-!
# C20 — the lock-file lock: never two writers, released on every exit
-/
namespace Pymap.C20
open Pymap.FileLock

theorem _root_.Pymap.FileLock.isRun : IsRun FileLock.step FileLock.run := ⟨fun _ => rfl, fun _ _ _ => rfl⟩

def FInv (s : St) : Prop := s.holders = [] ∨ (s.file = true ∧ ∃ i, s.holders = [i])

theorem FInv.unlock {s s' : St} (h : FInv s) {i : Nat} (hs : FileLock.step s (.unlock i) = some s') : s' = ⟨false, []⟩ := by
  simp only [FileLock.step, Option.ite_none_right_eq_some, Option.some.injEq] at hs
  obtain ⟨hc, rfl⟩ := hs
  rcases h with h | ⟨_, j, h⟩ <;> rw [h] at hc ⊢
  · cases hc
  · have hij : i = j := by simpa using hc
    rw [hij, List.erase_cons_head]

theorem FInv.step {s s' : St} (h : FInv s) (l : Label) (hs : FileLock.step s l = some s') : FInv s' := by
  cases l with
  | tryLock i =>
    -- the file was not there, so nobody was inside
    simp only [FileLock.step, Option.ite_none_left_eq_some, Option.some.injEq] at hs
    obtain ⟨hf, rfl⟩ := hs
    rcases h with h | ⟨hf', _⟩
    · exact Or.inr ⟨rfl, i, by rw [h]⟩
    · exact absurd hf' hf
  | unlock i => rw [h.unlock hs]; exact Or.inl rfl
  | expire | stale =>
    simp only [FileLock.step, Option.ite_none_right_eq_some, Option.some.injEq] at hs
    obtain ⟨he, rfl⟩ := hs
    exact Or.inl (List.isEmpty_iff.1 he)

theorem FInv.run {ls : List Label} {s : St} (hr : FileLock.run St.init ls = some s) : FInv s :=
  FileLock.isRun.inv (fun _ l _ h hs => h.step l hs) hr (Or.inl rfl)

/-- **exclusion**: along every history of lock attempts, releases, expirations and stale files, at most one writer
holds the lock file -/
theorem C20_file_exclusion (ls : List Label) (s : St) (hr : FileLock.run St.init ls = some s) : s.holders.length ≤ 1 := by
  rcases FInv.run hr with h | ⟨_, _, h⟩ <;> rw [h] <;> simp

/-- **released on exit**: the step every exit path of the critical section runs removes the file and leaves no holder,
so the next attempt succeeds -/
theorem C20_file_released (ls : List Label) (s s' : St) (i j : Nat) (hr : FileLock.run St.init ls = some s)
    (hu : FileLock.step s (.unlock i) = some s') :
    s'.file = false ∧ s'.holders = [] ∧ (FileLock.step s' (.tryLock j)).isSome := by
  rw [(FInv.run hr).unlock hu]; exact ⟨rfl, rfl, rfl⟩

/-- non-vacuity: two writers, the second has to retry until the first leaves -/
example : FileLock.run St.init [.tryLock 0, .unlock 0, .tryLock 1] = some ⟨true, [1]⟩ ∧
          FileLock.step ⟨true, [0]⟩ (.tryLock 1) = none := by decide

end Pymap.C20
