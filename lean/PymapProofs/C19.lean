import PymapModel.Sieve
/-!
# C19 — ManageSieve: no script access before login; the script store is a map
-/
namespace Pymap.C19
open Pymap.Sieve

def keys (d : List (Name × Script)) : List Name := d.map (·.1)

theorem dget_dput_self (k : Name) (v : Script) (d : List (Name × Script)) : dget k (dput k v d) = some v := by
  fun_induction dput k v d <;> simp [dget, *]

theorem dget_dput_ne {k k' : Name} (h : k' ≠ k) (v : Script) (d : List (Name × Script)) :
    dget k' (dput k v d) = dget k' d := by
  fun_induction dput k v d <;> simp [dget, *]

theorem dget_ddel_ne {k k' : Name} (h : k' ≠ k) (d : List (Name × Script)) : dget k' (ddel k d) = dget k' d := by
  fun_induction ddel k d <;> simp [dget, *]

theorem mem_keys_iff (k : Name) (d : List (Name × Script)) : k ∈ keys d ↔ (dget k d).isSome := by
  fun_induction dget k d with
  | case1 => exact ⟨nofun, nofun⟩
  | case2 v r => exact ⟨fun _ => rfl, fun _ => List.mem_cons_self⟩
  | case3 k' v r h ih => exact (List.mem_cons.trans (or_iff_right h)).trans ih

theorem keys_dput (k : Name) (v : Script) (d : List (Name × Script)) :
    keys (dput k v d) = if k ∈ keys d then keys d else keys d ++ [k] := by
  fun_induction dput k v d with
  | case1 => rfl
  | case2 v' r => exact (if_pos List.mem_cons_self).symm
  | case3 k' v' r h ih =>
    show k' :: keys (dput k v r) = if k ∈ k' :: keys r then k' :: keys r else k' :: keys r ++ [k]
    simp only [ih, List.mem_cons, h, false_or]
    split <;> rfl

theorem nodup_dput {k : Name} {v : Script} {d : List (Name × Script)} (h : (keys d).Nodup) :
    (keys (dput k v d)).Nodup := by
  rw [keys_dput]
  split
  · exact h
  · next hk => simpa [List.nodup_append, h] using fun a ha (e : a = k) => hk (e ▸ ha)

theorem keys_ddel_sublist (k : Name) (d : List (Name × Script)) : (keys (ddel k d)).Sublist (keys d) := by
  fun_induction ddel k d with
  | case1 => exact .slnil
  | case2 v' r => exact .cons _ (.refl _)
  | case3 k' v' r h ih => exact .cons_cons _ ih

/-- `ddel` removes the first entry under the key: it is the only one when the keys are distinct -/
theorem dget_ddel_self {k : Name} {d : List (Name × Script)} (h : (keys d).Nodup) : dget k (ddel k d) = none := by
  fun_induction ddel k d with
  | case1 => rfl
  | case2 v' r => exact Option.not_isSome_iff_eq_none.1 (mt (mem_keys_iff k r).2 (List.nodup_cons.1 h).1)
  | case3 k' v' r hne ih => rw [dget, if_neg hne]; exact ih (List.nodup_cons.1 h).2

/-- well-formedness of a script store: unique names, and the active name (if any) exists -/
structure WF (fs : FilterSet) : Prop where
  nodup  : (keys fs.filters).Nodup
  active : ∀ n, fs.active = some n → (dget n fs.filters).isSome

theorem WF.empty : WF FilterSet.empty := ⟨List.nodup_nil, nofun⟩

theorem WF.put {fs : FilterSet} (h : WF fs) (n : Name) (s : Script) : WF { fs with filters := dput n s fs.filters } where
  nodup := nodup_dput h.nodup
  active m hm := by
    by_cases e : m = n
    · rw [e, dget_dput_self]; rfl
    · rw [dget_dput_ne e]; exact h.active m hm

theorem WF.del {fs : FilterSet} (h : WF fs) {n : Name} (hn : fs.active ≠ some n) :
    WF { fs with filters := ddel n fs.filters } where
  nodup := h.nodup.sublist (keys_ddel_sublist n _)
  active m (hm : fs.active = some m) := by
    have e : m ≠ n := fun e => hn (e ▸ hm)
    rw [dget_ddel_ne e]; exact h.active m hm

/-- **gate**: before authentication only CAPABILITY, NOOP, LOGOUT, STARTTLS and AUTHENTICATE have any
effect; every script command is refused and touches nothing -/
theorem C19_gate (c : Conn) (st : Store) (cmd : Cmd) (hu : c.user = none)
    (hcmd : match cmd with
      | .noop | .capability | .logout | .starttls | .authenticate _ _ => False
      | _ => True) :
    step c st cmd = (c, st, .no "Bad command.") := by
  obtain ⟨_, _, _⟩ := c
  cases hu
  cases cmd with
  | noop | capability | logout | starttls | authenticate => exact hcmd.elim
  | _ => rfl

/-- every command keeps the store well-formed (script names are not repeated, and the active name, if there is one, exists) -/
theorem C19_wf (maxLen : Nat) (fs : FilterSet) (cmd : Cmd) (h : WF fs) : WF (runState maxLen fs cmd).1 := by
  -- the branches of `runState` that change the store; in all others it is returned as it was
  fun_cases runState maxLen fs cmd with
  | case2 n s => exact h.put n s                                            -- PUTSCRIPT within the limit
  | case5 => exact ⟨h.nodup, nofun⟩                                         -- SETACTIVE ""
  | case6 n hs => exact ⟨h.nodup, fun m hm => Option.some.inj hm ▸ hs⟩      -- SETACTIVE of a stored script
  | case12 n _ ha => exact h.del ha                                         -- DELETESCRIPT of a stored script that is not active
  | case15 o n s ho hn =>                                                   -- RENAMESCRIPT to a free name
    have hne : n ≠ o := fun e => hn (by rw [e, ho]; rfl)
    refine ⟨(nodup_dput h.nodup).sublist (keys_ddel_sublist o _), fun m hm => ?_⟩
    by_cases ha : fs.active = some o
    · rw [← Option.some.inj ((if_pos ha).symm.trans hm), dget_ddel_ne hne, dget_dput_self]; rfl
    · have hm : fs.active = some m := (if_neg ha).symm.trans hm
      have e : m ≠ o := fun e => ha (e ▸ hm)
      rw [dget_ddel_ne e]; exact (h.put n s).active m hm
  | _ => exact h

/-- PUTSCRIPT then GETSCRIPT returns the same bytes -/
theorem C19_put_get (maxLen : Nat) (fs : FilterSet) (n : Name) (s : Script) (h : s.length ≤ maxLen) :
    (runState maxLen (runState maxLen fs (.putscript n s)).1 (.getscript n)).2 = .script s := by
  simp [runState, h, dget_dput_self]

/-- … and leaves every other script alone -/
theorem C19_put_frame (maxLen : Nat) (fs : FilterSet) (n m : Name) (s : Script) (hne : m ≠ n) :
    dget m (runState maxLen fs (.putscript n s)).1.filters = dget m fs.filters := by
  simp only [runState]; split
  · exact dget_dput_ne hne _ _
  · rfl

/-- LISTSCRIPTS lists exactly the stored names and marks exactly the active one -/
theorem C19_list (maxLen : Nat) (fs : FilterSet) :
    (runState maxLen fs .listscripts).2 = .list (fs.filters.map (fun p => (p.1, fs.active = some p.1))) ∧
    (∀ n, n ∈ keys fs.filters ↔ (dget n fs.filters).isSome) :=
  ⟨rfl, fun n => mem_keys_iff n _⟩

/-- the active script cannot be deleted -/
theorem C19_delete_active (maxLen : Nat) (fs : FilterSet) (n : Name) (h : WF fs) (ha : fs.active = some n) :
    runState maxLen fs (.deletescript n) = (fs, .no "ACTIVE") := by
  simp [runState, Option.isNone_eq_false_iff.2 (h.active n ha), ha]

/-- a deleted script is gone, the others stay -/
theorem C19_delete (maxLen : Nat) (fs : FilterSet) (n : Name) (h : WF fs)
    (hr : (runState maxLen fs (.deletescript n)).2 = .ok) :
    dget n (runState maxLen fs (.deletescript n)).1.filters = none ∧
    ∀ m, m ≠ n → dget m (runState maxLen fs (.deletescript n)).1.filters = dget m fs.filters := by
  rw [runState] at hr ⊢
  by_cases hn : (dget n fs.filters).isNone = true
  · rw [if_pos hn] at hr; cases hr
  · rw [if_neg hn] at hr ⊢
    by_cases ha : fs.active = some n
    · rw [if_pos ha] at hr; cases hr
    · rw [if_neg ha]
      exact ⟨dget_ddel_self h.nodup, fun m hm => dget_ddel_ne hm _⟩

/-- RENAMESCRIPT keeps content and active status -/
theorem C19_rename (maxLen : Nat) (fs : FilterSet) (o n : Name) (s : Script) (h : WF fs)
    (ho : dget o fs.filters = some s) (hn : dget n fs.filters = none) :
    let fs' := (runState maxLen fs (.renamescript o n)).1
    dget n fs'.filters = some s ∧ dget o fs'.filters = none ∧
    (fs.active = some o → fs'.active = some n) ∧ (fs.active ≠ some o → fs'.active = fs.active) := by
  have hne : n ≠ o := fun e => by rw [e, ho] at hn; cases hn
  simp only [runState, ho, hn, Option.isSome_none, Bool.false_eq_true, if_false]
  exact ⟨by rw [dget_ddel_ne hne, dget_dput_self], dget_ddel_self (nodup_dput h.nodup),
    fun ha => if_pos ha, fun ha => if_neg ha⟩

theorem sget_sput_self (u : Nat) (f : FilterSet) (st : Store) : sget u (sput u f st) = f := by
  fun_induction sput u f st <;> simp [sget, *]

theorem sget_sput_ne {u u' : Nat} (h : u' ≠ u) (f : FilterSet) (st : Store) : sget u' (sput u f st) = sget u' st := by
  fun_induction sput u f st <;> simp [sget, *]

/-- one user's commands never change what another user sees -/
theorem C19_isolation (c : Conn) (st : Store) (cmd : Cmd) (u u' : Nat) (hu : c.user = some u) (hne : u' ≠ u) :
    sget u' (step c st cmd).2.1 = sget u' st := by
  -- only the last branch of `step`, a command run for the logged-in user, writes the store: under that user's key
  fun_cases step c st cmd with
  | case10 _ _ _ _ v hv =>          -- `c.user = some v`, a command that `runState` runs on `v`'s scripts
    obtain rfl : v = u := Option.some.inj (hv.symm.trans hu)
    exact sget_sput_ne hne _ _
  | _ => rfl

example : (step ⟨some 1, false, 100⟩ [] (.putscript [97] [1,2,3])).2.1 = [(1, ⟨[([97], [1,2,3])], none⟩)] := by decide

end Pymap.C19
