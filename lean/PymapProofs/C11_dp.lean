import PymapProofs.C11
/-!
# C11 — the position-set matcher of the repaired `ListTree` is the recursive wildcard semantics

`wildDP` (what `ListTree._matches` computes: one pass over the name with the set of reachable pattern positions) equals
`wild` (RFC 3501's reading of `*` and `%`, about which `C11_star_all`, `C11_pct`, `C11_literal`, `C11_list` speak).

`wild`, read as the matcher runs: from a position skip any number of wildcards (`closure1`), then take a character of the
name (`stepPos`, `wild_cons_cons`) or, the name being read, stand at the end of the pattern (`wild_cons_nil`).
-/
namespace Pymap.C11
open Pymap.Namespace

/-- some position of the set accepts the rest of the name -/
def acc (ci : Bool) (S : List (List Nat)) (n : List Nat) : Bool := S.any (fun p => wild ci p n)

theorem any_closure (P : List Nat → Bool) (T : List (List Nat)) :
    (closure T).any P = T.any (fun p => (closure1 p).any P) := by
  rw [← List.any_flatMap, Bool.eq_iff_iff]
  simp only [closure, List.any_eq_true, List.mem_eraseDups]

/-- a `G` that is `F` here or, past a wildcard, `G` again is `F` somewhere in `closure1` -/
theorem any_closure1 (F G : List Nat → Bool) (h0 : G [] = F [])
    (hs : ∀ p ps, G (p :: ps) = (F (p :: ps) || (isWild p && G ps))) (p : List Nat) :
    (closure1 p).any F = G p := by
  induction p with
  | nil => rw [h0]; exact Bool.or_false _
  | cons p ps ih =>
    rw [hs, ← ih, closure1, List.any_cons]
    cases isWild p <;> rfl

theorem wild_skip (ci : Bool) {p : Nat} (ps n : List Nat) (hw : isWild p = true) (h : wild ci ps n = true) :
    wild ci (p :: ps) n = true := by
  have hp : p = star ∨ p = pct := by simpa [isWild] using hw
  cases n with
  | nil => rw [wild_cons_nil, hw, h]; rfl
  | cons c cs => rcases hp with rfl | rfl <;> simp [wild_star, wild_pct, h]

/-- here `F = G`: skipping a wildcard never loses a match (`wild_skip`) -/
theorem any_closure1_wild (ci : Bool) (n p : List Nat) : (closure1 p).any (wild ci · n) = wild ci p n :=
  any_closure1 _ _ rfl (fun p ps => by simpa using wild_skip (p := p) ci ps n) p

theorem acc_closure (ci : Bool) (S : List (List Nat)) (n : List Nat) : acc ci (closure S) n = acc ci S n := by
  simp only [acc, any_closure, any_closure1_wild]

theorem wild_cons_cons (ci : Bool) (p : Nat) (ps : List Nat) (c : Nat) (cs : List Nat) :
    wild ci (p :: ps) (c :: cs) =
      ((stepPos ci c (p :: ps)).any (wild ci · cs) || (isWild p && wild ci ps (c :: cs))) := by
  by_cases hs : p = star
  · subst hs; rw [wild_star, Bool.or_comm]; simp [stepPos, isWild]
  · by_cases hp : p = pct
    · subst hp; rw [wild_pct, Bool.or_comm]
      cases hc : c != delim <;> simp [stepPos, isWild, hc, show pct ≠ star by decide]
    · have hw : isWild p = false := by simp [isWild, hs, hp]
      rw [wild_lit ci ps c cs hw, hw]
      cases hm : (if ci then upper p == upper c else p == c) <;> simp [stepPos, hs, hp, hm]

theorem any_closure1_step (ci : Bool) (c : Nat) (cs p : List Nat) :
    (closure1 p).any (fun q => (stepPos ci c q).any (wild ci · cs)) = wild ci p (c :: cs) :=
  any_closure1 _ (wild ci · (c :: cs)) (wild_nil ci _) (fun p ps => wild_cons_cons ci p ps c cs) p

theorem any_closure1_nil (ci : Bool) (p : List Nat) : (closure1 p).any ([] == ·) = wild ci p [] :=
  any_closure1 ([] == ·) (wild ci · []) (wild_nil ci _) (wild_cons_nil ci) p

theorem run_eq (ci : Bool) (n : List Nat) : ∀ (T : List (List Nat)),
    (n.foldl (fun S c => closure (S.flatMap (stepPos ci c))) (closure T)).contains [] = acc ci T n := by
  induction n with
  | nil => intro T; simp only [List.foldl_nil, List.contains_eq_any_beq, any_closure, any_closure1_nil ci, acc]
  | cons c cs ih =>
    intro T
    rw [List.foldl_cons, ih]
    simp only [acc, List.any_flatMap, any_closure, any_closure1_step]

/-- **the repaired matcher computes the wildcard semantics**: for every pattern and every name, in
`len(pattern) × len(name)` set operations instead of a backtracking search -/
theorem C11_dp_matches (ci : Bool) (pat name : List Nat) : wildDP ci pat name = wild ci pat name := by
  rw [wildDP, run_eq, acc, List.any_cons, List.any_nil, Bool.or_false]

example : wildDP false [42, 97, 42, 98] [120, 97, 121, 98] = true := by decide
example : wildDP false [37, 98] [97, 47, 98] = false := by decide

end Pymap.C11
