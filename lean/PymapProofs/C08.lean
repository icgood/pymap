import PymapModel.Layout
/-!
# C08 — mailbox names cannot reach outside the user's own mail store (path construction part)
-/
namespace Pymap.C08
open Pymap.Layout

theorem plain_iff {c : Comp} : plain c = true ↔ c ≠ [] ∧ c ≠ [dot] ∧ c ≠ [dot, dot] := by
  simp [plain, and_assoc]

theorem normAux_plain (p stack : List Comp) (h : ∀ c ∈ p, plain c = true) :
    normAux stack p = some (stack.reverse ++ p) := by
  induction p generalizing stack with
  | nil => rw [normAux, List.append_nil]
  | cons c r ih =>
    have ⟨hc, hr⟩ := List.forall_mem_cons.1 h
    have hc := plain_iff.1 hc
    rw [normAux.eq_def]
    simp only [if_neg (not_or.2 ⟨hc.1, hc.2.1⟩), if_neg hc.2.2]
    rw [ih (c :: stack) hr, List.reverse_cons, List.append_assoc]
    rfl

theorem norm_plain (p : List Comp) (h : ∀ c ∈ p, plain c = true) : norm p = some p := by
  simpa [norm] using normAux_plain p [] h

theorem validPart_plain {p : Comp} (h : validPart p = true) : plain p = true := by
  simp only [validPart, Bool.and_eq_true, Bool.not_eq_true', List.isEmpty_eq_false_iff, bne_iff_ne, ne_eq] at h
  exact plain_iff.2 ⟨h.1.1.1.1, h.1.1.1.2, h.1.1.2⟩

/-- the Maildir++ directory name of a valid name is an ordinary component: not empty, not `.`, not `..` -/
theorem defaultSubdir_plain (parts : List Comp) (h : validParts parts = true) :
    plain (dot :: joinDot parts) = true := by
  simp only [validParts, Bool.and_eq_true, Bool.not_eq_true', List.all_eq_true] at h
  obtain ⟨p, ps, rfl⟩ := List.exists_cons_of_ne_nil (List.isEmpty_eq_false_iff.1 h.1)
  have hp := plain_iff.1 (validPart_plain (h.2 p List.mem_cons_self))
  -- the name is `.` followed by something that is neither empty nor `.`: the one part, or a join of several of length ≥ 2
  have : joinDot (p :: ps) ≠ [] ∧ joinDot (p :: ps) ≠ [dot] := by
    cases ps with
    | nil => exact ⟨hp.1, hp.2.1⟩
    | cons q qs =>
      have h2 : 2 ≤ (joinDot (p :: q :: qs)).length := by
        have := List.length_pos_iff.2 hp.1; simp [joinDot]; omega
      constructor <;> (intro e; rw [e] at h2; simp at h2)
  simpa [plain_iff] using this

/-- **Confinement, Maildir++ layout.** For every mailbox name whose parts pass the check, the folder
path resolves to a *strict* extension of the user's directory — never the directory itself, never
above it.  (`base` is the already-resolved user directory.) -/
theorem C08_confined_default (base parts : List Comp) (hb : ∀ c ∈ base, plain c = true)
    (h : validParts parts = true) :
    ∃ leaf, norm (defaultPath base parts) = some (base ++ [leaf]) := by
  have hne : parts.isEmpty = false := by
    simp only [validParts, Bool.and_eq_true, Bool.not_eq_true'] at h; exact h.1
  refine ⟨dot :: joinDot parts, ?_⟩
  rw [defaultPath, hne, if_neg Bool.false_ne_true]
  refine norm_plain _ fun c hc => ?_
  rcases List.mem_append.1 hc with hc | hc
  · exact hb c hc
  · rw [List.mem_singleton.1 hc]; exact defaultSubdir_plain parts h

/-- **Confinement, `fs` layout.** -/
theorem C08_confined_fs (base parts : List Comp) (hb : ∀ c ∈ base, plain c = true)
    (h : validParts parts = true) :
    norm (fsPath base parts) = some (base ++ parts) ∧ parts ≠ [] := by
  simp only [validParts, Bool.and_eq_true, Bool.not_eq_true', List.all_eq_true] at h
  refine ⟨norm_plain _ fun c hc => ?_, List.isEmpty_eq_false_iff.1 h.1⟩
  rcases List.mem_append.1 hc with hc | hc
  · exact hb c hc
  · exact validPart_plain (h.2 c hc)

/-- the code as found has no check: on the default layout the name `.` resolves to the *parent* of the
user's directory and the empty name to the directory itself; on `fs`, `..` climbs out -/
theorem C08_escape_as_found :
    norm (defaultPath [[98], [117]] (splitOn slash [dot])) = some [[98]] ∧
    norm (defaultPath [[98], [117]] (splitOn slash [])) = some [[98], [117]] ∧
    norm (fsPath [[98], [117]] (splitOn slash [dot, dot])) = some [[98]] := by decide

end Pymap.C08
