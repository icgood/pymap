import PymapProofs.Lemmas.Grammar
/-!
# C18 — numbers: `Number.__bytes__` (`b'%d' % n`, `Wire.digits`) and the digit scan of `Number.parse` (`Grammar.readNum`)

Every place where the model reads a number it has written (literal lengths in `Grammar.scan`, `Framing.litLen` and
`AStr.parseLiteral`, the numbers of a sequence set) goes through `C18_roundtrip_number`.
-/
namespace Pymap.C18
open Pymap.Grammar Pymap.Wire

/-- **round trip of numbers**: parsing the decimal spelling of `n` followed by anything that does not start with a digit
yields `n` and consumes exactly its own bytes -/
theorem C18_roundtrip_number (n : Nat) (rest : List Nat) (h : firstIsDigit rest = false) :
    readNum 0 (digits n ++ rest) = (n, rest) := by
  rw [readNum_digits, readNum_stop n rest h]

theorem readNum_digits_nil (n : Nat) : readNum 0 (digits n) = (n, []) :=
  List.append_nil (digits n) ▸ C18_roundtrip_number n [] rfl

example : readNum 0 (digits 4294967295 ++ [32, 120]) = (4294967295, [32, 120]) :=
  C18_roundtrip_number _ _ (by decide)

end Pymap.C18
