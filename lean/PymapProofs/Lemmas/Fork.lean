import PymapProofs.Lemmas.Sync
/-! The fork/compare theorem behind C01: a client that applies `compare`'s output in order goes from the old `_sorted`
to the new one.  The EXPUNGE block, highest number first, leaves the retained messages; the EXISTS block appends the
new ones, which sort behind them; RECENT and FETCH change nothing. -/
namespace Pymap.Sync

/-- 1-based positions (offset `i`) of the elements of a list that fail `keep`, ascending -/
def dropSeqsFrom (keep : Nat → Bool) : Nat → List Nat → List Nat
  | _, [] => []
  | i, u :: us => if keep u then dropSeqsFrom keep (i+1) us else i :: dropSeqsFrom keep (i+1) us

theorem clientRun_append (srv c : List Nat) (a b : List Untagged) :
    clientRun srv c (a ++ b) = (clientRun srv c a).bind (fun c' => clientRun srv c' b) := by
  induction a generalizing c with
  | nil => simp [clientRun]
  | cons r rs ih =>
    simp only [List.cons_append, clientRun]
    cases clientApply srv c r with
    | none => simp
    | some c' => simp [ih]

theorem clientRun_inert (srv c : List Nat) (rs : List Untagged) (h : ∀ r ∈ rs, clientApply srv c r = some c) :
    clientRun srv c rs = some c := by
  induction rs with
  | nil => rfl
  | cons r rs ih =>
    simp only [clientRun, h r (by simp)]
    exact ih (fun r' hr' => h r' (by simp [hr']))

/-- EXPUNGEs in descending order of the previous numbering: every number is in range when applied
and the result is the filter -/
theorem clientRun_expunges (srv : List Nat) (keep : Nat → Bool) (pre us : List Nat) :
    clientRun srv (pre ++ us) (((dropSeqsFrom keep (pre.length+1) us).reverse).map Untagged.expunge)
      = some (pre ++ us.filter keep) := by
  induction us generalizing pre with
  | nil => simp [dropSeqsFrom, clientRun]
  | cons u us ih =>
    have ih := ih (pre ++ [u])
    simp only [List.length_append, List.length_singleton, List.append_assoc, List.singleton_append] at ih
    simp only [dropSeqsFrom, List.filter_cons]
    split
    · exact ih
    · -- the later positions go first and leave `u` at position `pre.length + 1`
      simp only [List.reverse_cons, List.map_append, clientRun_append, ih, Option.bind_some, List.map_cons,
        List.map_nil, clientRun, clientApply]
      rw [if_pos (by simp)]
      simp [List.eraseIdx_append_of_length_le]

theorem map_lookup_dropped (keep : Nat → Bool) (seqs : List (Nat × Nat)) :
    ∀ (l : List Nat) (i : Nat), (∀ j (hj : j < l.length), lookup l[j] seqs = some (i + j)) →
    (l.filter (fun u => !keep u)).map (fun u => (lookup u seqs).getD 0) = dropSeqsFrom keep i l := by
  intro l
  induction l with
  | nil => exact fun _ _ => rfl
  | cons u us ih =>
    intro i h
    have h0 : lookup u seqs = some i := h 0 (Nat.zero_lt_succ _)
    have ih := ih (i+1) fun j hj => by
      rw [Nat.add_assoc, Nat.add_comm 1 j]
      exact h (j+1) (Nat.succ_lt_succ hj)
    simp only [dropSeqsFrom, List.filter_cons]
    cases keep u <;> simp [ih, h0]

/-- the emptiness test in `_compare` only saves work: an empty set of expunged uids yields no response anyway -/
theorem cmpExpunge_eq (bUids : List Nat) (bSeqs : List (Nat × Nat)) (aUids : List Nat) (hide : Bool) :
    cmpExpunge bUids bSeqs aUids hide = if hide then [] else
      (sortDesc (bUids.filter (fun u => !(aUids.contains u)))).map (fun u => .expunge ((lookup u bSeqs).getD 0)) := by
  unfold cmpExpunge
  cases hide
  · cases bUids.filter (fun u => !(aUids.contains u)) <;> rfl
  · rfl

theorem client_after_expunges (b a : View) (hide : Bool) (hb : Coherent b)
    (hhide : hide = true → ∀ u ∈ b.uids, u ∈ a.uids) :
    clientRun a.sorted b.sorted (cmpExpunge b.uids b.seqs a.uids hide)
      = some (b.sorted.filter (fun u => a.uids.contains u)) := by
  obtain ⟨hp, hm, hnd, hs⟩ := hb
  rw [cmpExpunge_eq]
  cases hide with
  | true =>
    rw [if_pos rfl, List.filter_eq_self.2 fun u hu => List.contains_iff_mem.2 (hhide rfl u ((hm u).2 hu))]
    rfl
  | false =>
    -- the expunged uids in descending order are the dropped positions of `_sorted` in descending order
    have hsort : sortAsc (b.uids.filter (fun u => !(a.uids.contains u)))
        = b.sorted.filter (fun u => !(a.uids.contains u)) :=
      sorted_unique (sortAsc_pairwise (hnd.sublist List.filter_sublist)) (hp.filter _)
        (fun x => by rw [mem_sortAsc, List.mem_filter, List.mem_filter, hm])
    have hrun : clientRun a.sorted b.sorted
        (((dropSeqsFrom (fun u => a.uids.contains u) 1 b.sorted).reverse).map .expunge)
        = some (b.sorted.filter (fun u => a.uids.contains u)) := clientRun_expunges a.sorted _ [] b.sorted
    rw [← map_lookup_dropped _ b.seqs b.sorted 1 (fun j hj => by rw [hs j hj, Nat.add_comm]),
      ← List.map_reverse, List.map_map] at hrun
    rw [if_neg Bool.false_ne_true, sortDesc, hsort]
    exact hrun

theorem sorted_eq_retained_append_new (b a : View) (hb : Coherent b) (ha : Coherent a)
    (hnew : ∀ u ∈ a.uids, u ∉ b.uids → ∀ w ∈ a.uids, w ∈ b.uids → w < u) :
    a.sorted = b.sorted.filter (fun u => a.uids.contains u) ++ a.sorted.filter (fun u => !(b.uids.contains u)) := by
  obtain ⟨hpa, hma, -, -⟩ := ha
  obtain ⟨hpb, hmb, -, -⟩ := hb
  have hret : b.sorted.filter (fun u => a.uids.contains u) = a.sorted.filter (fun u => b.uids.contains u) :=
    sorted_unique (hpb.filter _) (hpa.filter _) (fun x => by simp [List.mem_filter, ← hma, ← hmb, and_comm])
  rw [hret]
  apply sorted_split (fun u => b.uids.contains u) hpa
  intro x hx y hy hpx hpy
  simp at hpx hpy
  exact hnew y ((hma y).2 hy) hpy x ((hma x).2 hx) hpx

theorem client_after_exists (b a : View) (hb : Coherent b) (ha : Coherent a)
    (hnew : ∀ u ∈ a.uids, u ∉ b.uids → ∀ w ∈ a.uids, w ∈ b.uids → w < u) :
    clientRun a.sorted (b.sorted.filter (fun u => a.uids.contains u)) (cmpExists b.uids a.uids)
      = some a.sorted := by
  have hsplit := sorted_eq_retained_append_new b a hb ha hnew
  obtain ⟨hpa, hma, hnda, -⟩ := ha
  generalize b.sorted.filter (fun u => a.uids.contains u) = r at hsplit ⊢
  unfold cmpExists
  split
  · -- `len(after.uids)` is the length of the new `_sorted`, of which the client holds a prefix
    have hlen : a.uids.length = a.sorted.length :=
      ((List.perm_ext_iff_of_nodup hnda (pairwise_lt_nodup hpa)).2 hma).length_eq
    simp only [clientRun, clientApply, hlen]
    rw [hsplit]; simp
  · rename_i hne
    have h0 : ∀ u ∈ a.uids, ¬ (!(b.uids.contains u)) = true :=
      List.filter_eq_nil_iff.1 (List.isEmpty_iff.1 (Bool.of_not_eq_false fun h => hne (by rw [h]; rfl)))
    have hnil : a.sorted.filter (fun u => !(b.uids.contains u)) = [] :=
      List.filter_eq_nil_iff.2 fun u hu => h0 u ((hma u).2 hu)
    rw [hnil, List.append_nil] at hsplit
    rw [hsplit]
    rfl

@[simp] theorem freeze_uids (v : View) (r : List Nat) : (freeze v r).uids = v.uids := rfl
@[simp] theorem freeze_seqs (v : View) (r : List Nat) : (freeze v r).seqs = v.seqs := rfl

/-- C01 core: applying `compare`'s output keeps the client equal to the server's `_sorted`.  `hnew`: the uids new to the view are above
those it keeps, so the client's list stays a prefix until EXISTS extends it; `hhide`: while expunges are hidden nothing leaves the view. -/
theorem fork_sync (b a : View) (rb ra : List Nat) (hide : Bool) (sil : List (Nat × List Nat)) (wu : Bool)
    (hb : Coherent b) (ha : Coherent a)
    (hnew : ∀ u ∈ a.uids, u ∉ b.uids → ∀ w ∈ a.uids, w ∈ b.uids → w < u)
    (hhide : hide = true → ∀ u ∈ b.uids, u ∈ a.uids) :
    clientRun a.sorted b.sorted (compare (freeze b rb) (freeze a ra) hide sil wu false) = some a.sorted := by
  simp only [compare, Bool.false_eq_true, if_false, freeze_uids, freeze_seqs]
  rw [clientRun_append, client_after_expunges b a hide hb hhide, Option.bind_some,
    clientRun_append, client_after_exists b a hb ha hnew, Option.bind_some]
  apply clientRun_inert
  intro r hr
  rcases List.mem_append.1 hr with hr | hr
  · unfold cmpRecent at hr
    split at hr
    · rw [List.mem_singleton.1 hr]; rfl
    · exact absurd hr List.not_mem_nil
  · unfold cmpFetch at hr
    obtain ⟨u, _, rfl⟩ := List.mem_map.1 hr
    rfl

#print axioms fork_sync

/-- every FETCH emitted by `compare` is labelled with the sequence number the message has in the
server's (and hence, by `fork_sync`, the client's) current numbering -/
theorem fetch_labels (b a : View) (rb ra : List Nat) (sil : List (Nat × List Nat)) (wu : Bool)
    (ha : Coherent a) :
    ∀ r ∈ cmpFetch (freeze b rb) (freeze a ra) sil wu,
      ∃ s u f rc w, r = Untagged.fetch s u f rc w ∧ ∃ (h : s - 1 < a.sorted.length), 1 ≤ s ∧ a.sorted[s-1] = u := by
  intro r hr
  unfold cmpFetch at hr
  obtain ⟨u, hu, rfl⟩ := List.mem_map.1 hr
  refine ⟨_, u, _, _, wu, rfl, ?_⟩
  -- a uid that is newly recent or has new flags is in the view
  have huv : u ∈ a.uids := by
    rw [List.mem_eraseDups, mem_sortAsc, List.mem_append] at hu
    rcases hu with hu | hu
    · exact List.contains_iff_mem.1 (List.mem_filter.1 (List.mem_filter.1 hu).1).2
    · obtain ⟨p, hp, rfl⟩ := List.mem_map.1 hu
      obtain ⟨u', hu', hf⟩ := List.mem_filterMap.1 (List.mem_filter.1 hp).1
      obtain ⟨_, _, rfl⟩ := Option.map_eq_some_iff.1 hf
      exact hu'
  obtain ⟨i, hi, rfl, hsi⟩ := ha.seq_of_mem huv
  rw [freeze_seqs, hsi, Option.getD_some]
  exact ⟨hi, Nat.le_add_left 1 i, rfl⟩

end Pymap.Sync
