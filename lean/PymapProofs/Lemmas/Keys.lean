/-!
# Lists of records that are found by a key: `k ∈ l.map key`, `(l.map key).Nodup`
-/
namespace Pymap

theorem nodup_map_concat {α β : Type} {f : α → β} {l : List α} {x : α} (h : (l.map f).Nodup) (hx : f x ∉ l.map f) :
    ((l ++ [x]).map f).Nodup := by
  rw [List.map_append, List.nodup_append]
  exact ⟨h, List.pairwise_singleton _ _, fun a ha b hb e => hx (by rw [List.mem_singleton.1 hb] at e; exact e ▸ ha)⟩

theorem eq_of_nodup_map {α β : Type} {f : α → β} {l : List α} (h : (l.map f).Nodup) {x y : α} (hx : x ∈ l) (hy : y ∈ l)
    (e : f x = f y) : x = y := by
  have p : l.Pairwise fun a b => f a ≠ f b := List.pairwise_map.1 h
  exact List.Pairwise.forall_of_forall_of_flip (R := fun a b => f a = f b → a = b) (fun _ _ _ => rfl)
    (p.imp fun h e => absurd e h) (p.imp fun h e => absurd e.symm h) hx hy e

theorem any_key_beq {α β : Type} [BEq β] [LawfulBEq β] {f : α → β} {l : List α} {k : β} :
    l.any (fun a => f a == k) = true ↔ k ∈ l.map f := by
  simp only [List.any_eq_true, List.mem_map, beq_iff_eq]

end Pymap
