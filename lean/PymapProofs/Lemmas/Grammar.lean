import PymapModel.Grammar
/-!
# The recogniser `scan`, step by step

Fuel occurs in two statements only, `scan_fuel` and `scan_eq_wfFrom`; `wfFrom` is `scan` with the fuel `wf` gives it, and its
step lemmas say what one token does to the state, with no fuel in sight.  Before that: what `skipQuoted` and `readNum` do on
what the serialisers write, with the facts about `Wire.digits` (the written number) that `readNum` needs.
-/
namespace Pymap.Grammar
open Pymap.Wire

theorem skipQuoted_len (l r : List Nat) (h : skipQuoted l = some r) : r.length < l.length := by
  fun_induction skipQuoted l with
  | case1 | case3 | case5 | case6 => nomatch h     -- no input left; CR, LF or NUL; a bad escape; `\` at the end
  | case2 => cases h; exact Nat.lt_succ_self _     -- the closing quote
  | case4 _ _ _ _ _ ih => exact Nat.lt_succ_of_lt (Nat.lt_succ_of_lt (ih h))   -- an escaped `"` or `\`
  | case7 _ _ _ _ _ ih => exact Nat.lt_succ_of_lt (ih h)                       -- any other byte

theorem skipQuoted_dq (r : List Nat) : skipQuoted (dq :: r) = some r := by
  rw [skipQuoted.eq_def]; simp only [if_true]

theorem skipQuoted_esc (c : Nat) (r : List Nat) (hc : c = bs ∨ c = dq) : skipQuoted (bs :: c :: r) = skipQuoted r := by
  rw [skipQuoted.eq_def]
  simp only [(by decide : ¬ bs = dq), (by decide : ¬ (bs = 13 ∨ bs = 10 ∨ bs = 0)), hc, if_false, if_true]

theorem skipQuoted_plain (b : Nat) (r : List Nat) (h1 : b ≠ dq) (h2 : b ≠ bs) (h3 : b ≠ 13 ∧ b ≠ 10 ∧ b ≠ 0) :
    skipQuoted (b :: r) = skipQuoted r := by
  rw [skipQuoted.eq_def]; simp only [h1, h2, h3, or_self, if_false]

theorem skipQuoted_escape (v rest : List Nat) (h : ∀ b ∈ v, b ≠ 13 ∧ b ≠ 10 ∧ b ≠ 0) :
    skipQuoted (escape v ++ dq :: rest) = some rest := by
  induction v with
  | nil => exact skipQuoted_dq rest
  | cons b r ih =>
    have ⟨hb, hr⟩ := List.forall_mem_cons.1 h
    rw [escape]; split
    · rw [List.cons_append, List.cons_append, skipQuoted_esc _ _ (Or.symm ‹_›), ih hr]
    · rw [List.cons_append, skipQuoted_plain _ _ (fun e => ‹¬ _› (Or.inl e)) (fun e => ‹¬ _› (Or.inr e)) hb, ih hr]

theorem isDigit_iff (b : Nat) : isDigit b = true ↔ 48 ≤ b ∧ b ≤ 57 := by
  simp only [isDigit, Bool.and_eq_true, decide_eq_true_eq]

theorem isDigit_add (n : Nat) (h : n < 10) : isDigit (48 + n) = true := (isDigit_iff _).2 (by omega)

theorem digits_ne_nil (n : Nat) : digits n ≠ [] := by
  rw [digits]; split <;> simp

theorem digits_all_digit (n : Nat) : ∀ b ∈ digits n, isDigit b = true := by
  fun_induction digits n with
  | case1 n h => exact List.forall_mem_singleton.2 (isDigit_add n h)
  | case2 n _ ih =>
    exact List.forall_mem_append.2 ⟨ih, List.forall_mem_singleton.2 (isDigit_add _ (Nat.mod_lt _ (by decide)))⟩

theorem digits_no_lf (n : Nat) : 10 ∉ digits n := fun h => absurd (digits_all_digit n 10 h) (by decide)

/-- a positive number is written without a leading zero -/
theorem digits_head_pos (n : Nat) : 1 ≤ n → ∃ b r, digits n = b :: r ∧ 49 ≤ b ∧ b ≤ 57 := by
  fun_induction digits n with
  | case1 n h => exact fun hn => ⟨48 + n, [], rfl, Nat.add_le_add_left hn 48, Nat.add_le_add_left (Nat.le_of_lt_succ h) 48⟩
  | case2 n h ih =>
    intro _
    obtain ⟨b, r, hd, hb⟩ := ih (Nat.div_pos (Nat.le_of_not_lt h) (by decide))
    exact ⟨b, r ++ [48 + n % 10], by rw [hd]; rfl, hb⟩

theorem firstIsDigit_digits (n : Nat) (t : List Nat) : firstIsDigit (digits n ++ t) = true := by
  obtain ⟨b, r, h⟩ := List.exists_cons_of_ne_nil (digits_ne_nil n)
  rw [h]; exact digits_all_digit n b (h ▸ List.mem_cons_self ..)

/-- reading the spelling of `n` is reading on from `n` -/
theorem readNum_digits (n : Nat) : ∀ (t : List Nat), readNum 0 (digits n ++ t) = readNum n t := by
  fun_induction digits n with
  | case1 n h =>
    intro t
    rw [List.cons_append, List.nil_append, readNum, if_pos (isDigit_add n h), Nat.add_sub_cancel_left, Nat.zero_mul, Nat.zero_add]
  | case2 n h ih =>
    intro t
    rw [List.append_assoc, ih, List.cons_append, List.nil_append, readNum, if_pos (isDigit_add _ (Nat.mod_lt _ (by decide))),
      Nat.add_sub_cancel_left, Nat.div_add_mod']

theorem readNum_stop (acc : Nat) (rest : List Nat) (h : firstIsDigit rest = false) : readNum acc rest = (acc, rest) := by
  cases rest with
  | nil => rfl
  | cons b r => rw [readNum, if_neg (by simpa [firstIsDigit] using h)]

theorem readNum_len (acc : Nat) (l : List Nat) : (readNum acc l).2.length ≤ l.length := by
  fun_induction readNum acc l with
  | case1 _ _ _ _ ih => exact Nat.le_succ_of_le ih
  | case2 | case3 => exact Nat.le_refl _

/-- **fuel independence**: with enough fuel the answer does not depend on it (each call consumes input) -/
theorem scan_fuel : ∀ (f1 f2 : Nat) (st : List Nat) (tok : Bool) (l : List Nat), l.length < f1 → l.length < f2 →
    scan f1 st tok l = scan f2 st tok l := by
  intro f1
  induction f1 with
  | zero => intro _ _ _ _ h1; exact absurd h1 (Nat.not_lt_zero _)
  | succ f1 ih =>
    intro f2 st tok l h1 h2
    cases f2 with
    | zero => exact absurd h2 (Nat.not_lt_zero _)
    | succ f2 =>
      cases l with
      | nil => rfl
      | cons b r =>
        -- every recursive call of `scan` is on a list no longer than `r`; there the two fuels agree, and
        -- rewriting the calls (rather than splitting the `if` chain) makes both sides the same term
        have ih : ∀ st tok l, l.length ≤ r.length → scan f1 st tok l = scan f2 st tok l := fun st tok l hl =>
          ih f2 st tok l (Nat.lt_of_le_of_lt hl (Nat.lt_of_succ_lt_succ h1)) (Nat.lt_of_le_of_lt hl (Nat.lt_of_succ_lt_succ h2))
        have hl : (((readNum 0 r).2.drop 3).drop (readNum 0 r).1).length ≤ r.length := by
          rw [List.length_drop, List.length_drop]
          exact Nat.le_trans (Nat.sub_le _ _) (Nat.le_trans (Nat.sub_le _ _) (readNum_len 0 r))
        have ht : r.tail.length ≤ r.length := by
          rw [List.length_tail]
          exact Nat.sub_le _ _
        simp only [scan, ih _ _ r (Nat.le_refl _), ih _ _ _ hl, ih _ _ r.tail ht]
        cases h : skipQuoted r with
        | none => rfl
        | some r' => simp only [ih _ _ r' (Nat.le_of_lt (skipQuoted_len r r' h))]

/-- `wf` from any state `(st, tok)` of the recogniser: `scan` on `l` with the fuel `wf` gives it (`wf l = wfFrom [] false l`) -/
def wfFrom (st : List Nat) (tok : Bool) (l : List Nat) : Bool := scan (l.length + 1) st tok l

theorem scan_eq_wfFrom {f : Nat} (st : List Nat) (tok : Bool) {l : List Nat} (h : l.length < f) : scan f st tok l = wfFrom st tok l :=
  scan_fuel f _ st tok l h (Nat.lt_succ_self _)

/-- a byte that can be part of an atom -/
def tokByte (b : Nat) : Bool := plain b && b != 126

theorem wfFrom_tok (st : List Nat) (tok : Bool) {b : Nat} (t : List Nat) (h : tokByte b = true) :
    wfFrom st tok (b :: t) = wfFrom st true t := by
  have hp : plain b = true ∧ b ≠ 126 := by simpa [tokByte] using h
  -- the bytes `scan` treats specially are not plain, so `b` is none of them
  have ne : ∀ c, plain c = false → b ≠ c := fun c hc e => Bool.false_ne_true (hc.symm.trans (e ▸ hp.1))
  rw [wfFrom, wfFrom, List.length_cons, scan, if_neg (ne 13 rfl), if_neg (ne 32 rfl), if_neg (not_or.2 ⟨ne lp rfl, ne lb rfl⟩),
    if_neg (ne rp rfl), if_neg (ne rb rfl), if_neg (ne dq rfl), if_neg (ne lc rfl), if_neg hp.2, hp.1, Bool.true_and]

/-! On a fixed byte a step holds by computation: `scan` unfolds once and the comparisons of that byte with the others evaluate;
the fuel that is left is exactly the fuel `wfFrom` gives the rest. -/

theorem wfFrom_sp (st t : List Nat) : wfFrom st true (32 :: t) = wfFrom st false t := rfl

theorem wfFrom_open (sq : Bool) (st : List Nat) (tok : Bool) (t : List Nat) :
    wfFrom st tok ((if sq then lb else lp) :: t) = wfFrom ((if sq then lb else lp) :: st) false t := by cases sq <;> rfl

theorem wfFrom_close (sq : Bool) (st : List Nat) (tok : Bool) (t : List Nat) :
    wfFrom ((if sq then lb else lp) :: st) tok ((if sq then rb else rp) :: t) = wfFrom st true t := by cases sq <;> rfl

theorem wfFrom_tilde (st : List Nat) (tok : Bool) (t : List Nat) : wfFrom st tok (126 :: lc :: t) = wfFrom st false (lc :: t) := by
  rfl  -- the term `rfl` is checked twice as slowly here

theorem wfFrom_crlf (tok : Bool) : wfFrom [] tok [13, 10] = tok := by cases tok <;> rfl

/-! Behind a quoted string or a literal less input is left than fuel: `scan_eq_wfFrom` restores the balance.  The `show` is the
unfolded step. -/

theorem wfFrom_dq (st : List Nat) (tok : Bool) {t r : List Nat} (h : skipQuoted t = some r) :
    wfFrom st tok (dq :: t) = wfFrom st true r := by
  refine Eq.trans ?_ (scan_eq_wfFrom (f := t.length + 1) st true (Nat.lt_succ_of_lt (skipQuoted_len t r h)))
  show (match skipQuoted t with | some r' => scan (t.length + 1) st true r' | none => false) = _
  rw [h]

theorem wfFrom_lc (st : List Nat) (tok : Bool) {r p : List Nat} {n : Nat} (hd : firstIsDigit r = true)
    (hn : readNum 0 r = (n, rc :: 13 :: 10 :: p)) (hp : n ≤ p.length) : wfFrom st tok (lc :: r) = wfFrom st true (p.drop n) := by
  have hl : (p.drop n).length < r.length + 1 :=
    calc (p.drop n).length ≤ p.length := List.length_drop ▸ Nat.sub_le ..
      _ ≤ (readNum 0 r).2.length := by rw [hn]; exact Nat.le_add_right _ 3
      _ < r.length + 1 := Nat.lt_succ_of_le (readNum_len 0 r)
  refine Eq.trans ?_ (scan_eq_wfFrom st true hl)
  show (if (readNum 0 r).2.take 3 = [rc, 13, 10] then
      firstIsDigit r && decide ((readNum 0 r).1 ≤ ((readNum 0 r).2.drop 3).length) &&
        scan (r.length + 1) st true (((readNum 0 r).2.drop 3).drop (readNum 0 r).1) else false) = _
  rw [hn, hd]
  simp only [List.take, List.drop, if_true, hp, decide_true, Bool.true_and]

end Pymap.Grammar
