import PymapModel.System
import PymapProofs.Lemmas.Converge
import PymapProofs.Lemmas.Fork
/-! Invariant of N sessions on one mailbox: each session is `Consistent` with the store up to its
`mod_sequence`, and its client holds the list of its view.  A mutation keeps this through `Logged`,
a sync restores it through `Refreshed`. -/
namespace Pymap.System
open Pymap.Sync Pymap.Mailbox Pymap.ModSeq

/-- `seen` is the mailbox's `maxUid` at the session's last sync: the view holds nothing above it (`viewLe`) and everything of
the mailbox up to it (`seenIn`), so whatever a later sync adds is above all the view held — the `hnew` that `fork_sync` asks for -/
structure SessInv (b : MBox) (s : Sess) : Prop where
  coh     : Coherent s.view
  cons    : Consistent b s.view s.p
  ple     : s.p ≤ b.log.highest
  seenLe  : s.seen ≤ b.maxUid
  viewLe  : ∀ w ∈ s.view.uids, w ≤ s.seen
  seenIn  : ∀ u ∈ b.uids, u ≤ s.seen → u ∈ s.view.uids
  client  : s.client = some s.view.sorted

structure Inv (s : Sys) : Prop where
  box  : MBoxInv s.box
  sess : ∀ x ∈ s.sess, SessInv s.box x

theorem modifyNth_eq {α : Type} (f : α → α) : ∀ (n : Nat) (l : List α), modifyNth f n l = l.modify n f
  | _, [] => by simp [modifyNth]
  | 0, a :: as => rfl
  | n+1, a :: as => by simp [modifyNth, modifyNth_eq f n as]

theorem getElem?_modifyNth {α : Type} (f : α → α) (n : Nat) (l : List α) :
    (modifyNth f n l)[n]? = (l[n]?).map f := by
  simp [modifyNth_eq]

theorem forall_modifyNth {α : Type} (P : α → Prop) (f : α → α) (hf : ∀ a, P a → P (f a))
    (n : Nat) (l : List α) (h : ∀ a ∈ l, P a) : ∀ a ∈ modifyNth f n l, P a := by
  intro a ha
  obtain ⟨j, hj⟩ := List.getElem?_of_mem ha
  rw [modifyNth_eq, List.getElem?_modify] at hj
  obtain ⟨a0, h0, rfl⟩ := Option.map_eq_some_iff.1 hj
  have := h a0 (List.mem_of_getElem? h0)
  split
  · exact hf _ this
  · exact this

theorem Inv.init : Inv Sys.init := ⟨MBoxInv.new, by simp [Sys.init]⟩

theorem updateSelected_coherent (b : MBox) (v : View) (p : Option Nat) (hide : Bool) (h : Coherent v) :
    Coherent (updateSelected b v p hide).1 := by
  cases p <;> exact addUpdates_coherent _ _ _ _ h

theorem syncSess_view (b : MBox) (hide wu : Bool) (s : Sess) :
    (syncSess b hide wu s).view = (updateSelected b s.view (some s.p) hide).1 := rfl

/-- a session whose view has just been refreshed, at the moment it stores the new `mod_sequence` -/
theorem SessInv.of_refreshed {b : MBox} {v r : View} {hide : Bool} (hs : Refreshed b v r hide) (hb : MBoxInv b)
    (hr : Coherent r) (rc : List Nat) : SessInv b ⟨r, b.log.highest, rc, b.maxUid, some r.sorted⟩ :=
  have hc := hs.consistent hb b.log.highest
  ⟨hr, hc, Nat.le_refl _, Nat.le_refl _, fun w hw => hc.bound w (.inl hw), fun u hu _ => (hs.inBox u hu).1, rfl⟩

theorem syncSess_inv {b : MBox} {s : Sess} (hide wu : Bool) (hb : MBoxInv b) (h : SessInv b s) :
    SessInv b (syncSess b hide wu s) := by
  have hs := refreshed_updateSelected hb h.cons hide
  have hr := updateSelected_coherent b s.view (some s.p) hide h.coh
  have : syncSess b hide wu s =
      ⟨(updateSelected b s.view (some s.p) hide).1, b.log.highest, s.recent, b.maxUid,
        some (updateSelected b s.view (some s.p) hide).1.sorted⟩ := by
    -- the client follows: a uid new to the view is above `seen`, hence above all the view held
    have hnew : ∀ u ∈ (updateSelected b s.view (some s.p) hide).1.uids, u ∉ s.view.uids →
        ∀ w ∈ (updateSelected b s.view (some s.p) hide).1.uids, w ∈ s.view.uids → w < u := fun u hu hnu w _ hw => by
      have hub : u ∈ b.uids := Classical.not_not.1 fun hub => hnu (hs.extra u hu hub).1
      have h1 : s.seen < u := Nat.lt_of_not_le fun hle => hnu (h.seenIn u hub hle)
      exact Nat.lt_of_le_of_lt (h.viewLe w hw) h1
    rw [syncSess, h.client, Option.bind_some, fork_sync _ _ _ _ _ _ _ h.coh hr hnew hs.keep]
    rfl
  rw [this]
  exact .of_refreshed hs hb hr _

theorem SessInv.logged {b b' : MBox} {us : List Nat} {k : Kind} {s : Sess} (hl : Logged b b' us k)
    (hb : MBoxInv b) (hs : SessInv b s) : SessInv b' s :=
  ⟨hs.coh, hl.consistent hb hs.cons (Nat.le_succ_of_le hs.ple), hl.highest ▸ Nat.le_succ_of_le hs.ple,
    Nat.le_trans hs.seenLe hl.maxUid, hs.viewLe,
    fun u hu hle => hs.seenIn u ((hl.grow u hu).resolve_right (Nat.not_lt.2 (Nat.le_trans hle hs.seenLe))) hle,
    hs.client⟩

theorem SessInv.delete {b : MBox} {s : Sess} (hb : MBoxInv b) (hs : SessInv b s)
    (us : List Nat) (hnd : us.Nodup) : SessInv (delete b us) s :=
  hs.logged (delete_logged hb hnd) hb

theorem Inv.step {s : Sys} (h : Inv s) (op : Op) : Inv (step s op) := by
  obtain ⟨hb, hs⟩ := h
  cases op with
  | select =>
    refine ⟨hb, fun x hx => ?_⟩
    rcases List.mem_append.1 hx with hx | hx
    · exact hs x hx
    · rw [List.mem_singleton.1 hx]
      exact .of_refreshed (refreshed_first hb false) hb (updateSelected_coherent _ _ _ _ coherent_empty) _
  | append flags recent cid date =>
    exact ⟨push_inv hb .., fun x hx => (hs x hx).logged (push_logged hb ..) hb⟩
  | store u fs mode =>
    show Inv { s with box := updateFlags s.box u (flagOp mode fs) }
    by_cases hu : u ∈ s.box.uids
    · exact ⟨updateFlags_inv hb .., fun x hx => (hs x hx).logged (updateFlags_logged hb hu _) hb⟩
    · rw [updateFlags_of_not_mem hu]
      exact ⟨hb, hs⟩
  | expunge i sel =>
    simp only [System.step]
    cases hx : s.sess[i]? with
    | none => exact ⟨hb, hs⟩
    | some x =>
      have hxi := hs x (List.mem_of_getElem? hx)
      have hnd : (x.view.uids.filter (fun u => sel.contains u)).Nodup :=
        hxi.coh.nodup.sublist List.filter_sublist
      exact ⟨delete_inv hb _ hnd fun u hu => hxi.cons.bound u (.inl (List.mem_filter.1 hu).1),
        fun y hy => (hs y hy).delete hb _ hnd⟩
  | sync i hide wu =>
    exact ⟨hb, forall_modifyNth (SessInv s.box) _ (fun a ha => syncSess_inv hide wu hb ha) i s.sess hs⟩

theorem run_concat (s : Sys) (ops : List Op) (op : Op) : run s (ops ++ [op]) = System.step (run s ops) op := by
  simp [run]

theorem Inv.run {s : Sys} (h : Inv s) (ops : List Op) : Inv (run s ops) := by
  induction ops generalizing s with
  | nil => exact h
  | cons op ops ih => exact ih (h.step op)

/-- every reachable state satisfies the invariant — any number of sessions, any schedule, any length -/
theorem reachable_inv (ops : List Op) : Inv (run Sys.init ops) := Inv.init.run ops

#print axioms reachable_inv

/-- **Convergence** at any state that satisfies the invariant: a sync that does not hide expunges
leaves the session's view equal to the mailbox -/
theorem Inv.sync_converges {s : Sys} (h : Inv s) {i : Nat} {wu : Bool} {x : Sess}
    (hx : (System.step s (.sync i false wu)).sess[i]? = some x) :
    (∀ u, u ∈ x.view.uids ↔ u ∈ s.box.uids) ∧
    (∀ u ∈ s.box.uids, x.view.flagsOf u = (s.box.find u).map (·.flags)) ∧
    x.view.pending = [] := by
  have hx : (modifyNth (syncSess s.box false wu) i s.sess)[i]? = some x := hx
  rw [getElem?_modifyNth] at hx
  obtain ⟨y, hy, rfl⟩ := Option.map_eq_some_iff.1 hx
  have hc := Mailbox.sync_converges h.box (h.sess y (List.mem_of_getElem? hy)).cons
  rw [syncSess_view]
  exact ⟨hc.1, hc.2.1, hc.2.2.1⟩

end Pymap.System
