import PymapModel.RWLock
/-! The `asyncio.Lock` model on its own.  `LInv` (what exclusion needs): only the first waiter can have been woken,
and while a woken waiter has not yet run the lock stays free.  `headOk` (what progress needs): the first waiter of a
free lock is never still pending.  `keys` is the queue as the lock's users see it. -/
namespace Pymap.RWLock

def WSt.isWk : WSt → Bool
  | .woken | .wokenCancelled => true
  | _ => false

def hasWoken (l : ALock) : Prop := ∃ w ∈ l.waiters, w.2.isWk = true

structure LInv (l : ALock) : Prop where
  head : ∀ w ∈ l.waiters.tail, w.2.isWk = false
  free : hasWoken l → l.locked = false

theorem LInv.init : LInv ALock.free := ⟨by simp [ALock.free], by simp [ALock.free, hasWoken]⟩

theorem canFast_not_locked {l : ALock} (h : l.canFast = true) : l.locked = false := by
  rw [ALock.canFast, Bool.and_eq_true, Bool.not_eq_true'] at h
  exact h.1

theorem canFast_no_woken {l : ALock} (h : l.canFast = true) : ¬ hasWoken l := by
  rintro ⟨w, hw, hk⟩
  rw [ALock.canFast, Bool.and_eq_true, List.all_eq_true] at h
  rw [eq_of_beq (h.2 w hw)] at hk
  cases hk

theorem LInv.fast {l : ALock} (h : LInv l) (hf : l.canFast = true) : LInv { l with locked := true } :=
  ⟨h.head, fun ⟨w, hw, hk⟩ => absurd ⟨w, hw, hk⟩ (canFast_no_woken hf)⟩

theorem LInv.enqueue {l : ALock} (h : LInv l) (t : Nat) : LInv (l.enqueue t) := by
  constructor
  · -- the tail of `ws ++ [new]` is the old tail with `new` behind it (or empty), and `new` is pending
    intro w hw
    simp only [ALock.enqueue] at hw
    cases hl : l.waiters with
    | nil => rw [hl] at hw; simp at hw
    | cons a as =>
      rw [hl] at hw; simp at hw
      rcases hw with hw | rfl
      · exact h.head w (by rw [hl]; simpa using hw)
      · rfl
  · rintro ⟨w, hw, hk⟩
    simp only [ALock.enqueue, List.mem_append, List.mem_singleton] at hw
    rcases hw with hw | rfl
    · exact h.free ⟨w, hw, hk⟩
    · simp [WSt.isWk] at hk

theorem isWoken_mem {l : ALock} {t : Nat} (h : l.isWoken t = true) : (t, WSt.woken) ∈ l.waiters := by
  obtain ⟨⟨a, b⟩, hm, hc⟩ := List.any_eq_true.1 h
  simp at hc
  obtain ⟨rfl, rfl⟩ := hc
  exact hm

theorem LInv.free_of_woken {l : ALock} (h : LInv l) {t : Nat} (hw : l.isWoken t = true) : l.locked = false :=
  h.free ⟨_, isWoken_mem hw, rfl⟩

theorem LInv.woken_head {l : ALock} (h : LInv l) {t : Nat} (hw : l.isWoken t = true) :
    ∃ r, l.waiters = (t, .woken) :: r := by
  have hm := isWoken_mem hw
  cases hl : l.waiters with
  | nil => rw [hl] at hm; cases hm
  | cons a as =>
    rcases List.mem_cons.1 (hl ▸ hm) with rfl | hm
    · exact ⟨as, rfl⟩
    · exact nomatch h.head (t, .woken) (by rw [hl]; exact hm)

/-- the queue without the futures of task `i`: what `take` (which also locks) and `unwind` (which also wakes) leave of it -/
def ALock.drop (l : ALock) (i : Nat) : ALock := { l with waiters := l.waiters.filter (fun w => w.1 != i) }

theorem unwind_eq (l : ALock) (i : Nat) :
    l.unwind i = if l.locked = true then l.drop i else (l.drop i).wakeFirst := rfl

theorem LInv.drop {l : ALock} (h : LInv l) (t : Nat) : LInv (l.drop t) :=
  ⟨fun w hw => h.head w (List.filter_sublist.tail.subset hw),
    fun ⟨w, hw, hk⟩ => h.free ⟨w, (List.mem_filter.1 hw).1, hk⟩⟩

theorem LInv.take {l : ALock} (h : LInv l) {t : Nat} (hw : l.isWoken t = true) : LInv (l.take t) := by
  obtain ⟨r, hr⟩ := h.woken_head hw
  refine ⟨(h.drop t).head, fun ⟨w, hm, hk⟩ => ?_⟩
  -- `w` is behind the head `(t, woken)`, which `take` has removed
  have hm' : w ∈ r.filter (fun w => w.1 != t) := by simpa [ALock.take, hr] using hm
  rw [h.head w (by rw [hr]; exact (List.mem_filter.1 hm').1)] at hk
  cases hk

theorem wakeFirst_locked (l : ALock) : l.wakeFirst.locked = l.locked := by
  unfold ALock.wakeFirst; split <;> rfl

theorem wakeFirst_tail (l : ALock) : l.wakeFirst.waiters.tail = l.waiters.tail := by
  unfold ALock.wakeFirst
  split
  · rename_i h; rw [h]; rfl
  · rfl

theorem LInv.wakeFirst {l : ALock} (h : LInv l) (hf : l.locked = false) : LInv l.wakeFirst :=
  ⟨fun w hw => h.head w (wakeFirst_tail l ▸ hw), fun _ => (wakeFirst_locked l).trans hf⟩

theorem release_locked (l : ALock) : l.release.locked = false := wakeFirst_locked _

theorem LInv.release {l : ALock} (h : LInv l) : LInv l.release ∧ l.release.locked = false :=
  ⟨LInv.wakeFirst (l := { l with locked := false }) ⟨h.head, fun _ => rfl⟩ rfl, release_locked l⟩

theorem unwind_locked (l : ALock) (i : Nat) : (l.unwind i).locked = l.locked := by
  rw [unwind_eq]
  split
  · rfl
  · exact wakeFirst_locked _

theorem LInv.unwind {l : ALock} (h : LInv l) (t : Nat) : LInv (l.unwind t) := by
  rw [unwind_eq]
  split
  · exact h.drop t
  · rename_i hlk; exact (h.drop t).wakeFirst (Bool.eq_false_iff.2 hlk)

theorem cancelW_isWk (t : Nat) (w : Nat × WSt) : (cancelW t w).2.isWk = w.2.isWk := by
  unfold cancelW; split
  · obtain ⟨a, b⟩ := w; cases b <;> rfl
  · rfl

theorem LInv.markCancel {l : ALock} (h : LInv l) (t : Nat) : LInv (l.markCancel t) := by
  constructor
  · intro w hw
    simp only [ALock.markCancel, ← List.map_tail, List.mem_map] at hw
    obtain ⟨w0, hw0, rfl⟩ := hw
    rw [cancelW_isWk]; exact h.head w0 hw0
  · rintro ⟨w, hw, hk⟩
    simp only [ALock.markCancel, List.mem_map] at hw
    obtain ⟨w0, hw0, rfl⟩ := hw
    rw [cancelW_isWk] at hk
    exact h.free ⟨w0, hw0, hk⟩

def WSt.live : WSt → Bool
  | .pending | .woken => true
  | _ => false

/-- the queue of a mutex, forgetting whether a waiter has been woken: (task, still waiting / cancelled) -/
def keys (l : ALock) : List (Nat × Bool) := l.waiters.map (fun w => (w.1, w.2.live))

theorem keys_wakeFirst (l : ALock) : keys l.wakeFirst = keys l := by
  unfold ALock.wakeFirst keys
  split
  · rename_i t r h; rw [h]; rfl
  · rfl

theorem keys_release (l : ALock) : keys l.release = keys l := keys_wakeFirst _

theorem keys_enqueue (l : ALock) (i : Nat) : keys (l.enqueue i) = keys l ++ [(i, true)] :=
  List.map_append

theorem keys_take (l : ALock) (i : Nat) : keys (l.take i) = keys (l.drop i) := rfl

theorem mem_keys_drop (l : ALock) (i j : Nat) (b : Bool) : (j, b) ∈ keys (l.drop i) ↔ (j, b) ∈ keys l ∧ j ≠ i := by
  simp only [keys, ALock.drop, List.mem_map, List.mem_filter, Prod.mk.injEq, bne_iff_ne]
  constructor
  · rintro ⟨w, ⟨hm, hne⟩, rfl, rfl⟩; exact ⟨⟨w, hm, rfl, rfl⟩, hne⟩
  · rintro ⟨⟨w, hm, rfl, rfl⟩, hne⟩; exact ⟨w, ⟨hm, hne⟩, rfl, rfl⟩

theorem mem_keys_unwind (l : ALock) (i j : Nat) (b : Bool) : (j, b) ∈ keys (l.unwind i) ↔ (j, b) ∈ keys l ∧ j ≠ i := by
  rw [unwind_eq]
  split
  · exact mem_keys_drop l i j b
  · rw [keys_wakeFirst]; exact mem_keys_drop l i j b

theorem cancelW_key (i : Nat) (w : Nat × WSt) :
    ((cancelW i w).1, (cancelW i w).2.live) = (w.1, !(w.1 == i) && w.2.live) := by
  obtain ⟨a, st⟩ := w
  unfold cancelW
  cases h : a == i <;> cases st <;> rfl

theorem mem_keys_markCancel (l : ALock) (i j : Nat) (b : Bool) :
    (j, b) ∈ keys (l.markCancel i) ↔ (j ≠ i ∧ (j, b) ∈ keys l) ∨ (j = i ∧ b = false ∧ ∃ b0, (i, b0) ∈ keys l) := by
  simp only [keys, ALock.markCancel, List.map_map, List.mem_map, Function.comp, cancelW_key, Prod.mk.injEq]
  constructor
  · rintro ⟨w, hm, rfl, rfl⟩
    by_cases h : w.1 = i
    · exact .inr ⟨h, by simp [h], _, w, hm, h, rfl⟩
    · exact .inl ⟨h, w, hm, rfl, by simp [h]⟩
  · rintro (⟨hne, w, hm, rfl, rfl⟩ | ⟨rfl, rfl, b0, w, hm, rfl, rfl⟩)
    · exact ⟨w, hm, rfl, by simp [hne]⟩
    · exact ⟨w, hm, rfl, by simp⟩

def headOk (l : ALock) : Prop := l.locked = false → ∀ w r, l.waiters = w :: r → w.2 ≠ .pending

theorem headOk_locked {l : ALock} (h : l.locked = true) : headOk l := by
  intro h'; rw [h] at h'; cases h'

theorem headOk_wakeFirst (l : ALock) : headOk l.wakeFirst := by
  intro _ w r hw
  unfold ALock.wakeFirst at hw
  split at hw
  · simp at hw; rw [← hw.1]; simp
  · rename_i hne
    intro hp
    obtain ⟨a, b⟩ := w
    simp at hp; subst hp
    exact hne a r hw

theorem headOk_release (l : ALock) : headOk l.release := headOk_wakeFirst _

theorem headOk_enqueue {l : ALock} (h : headOk l) (i : Nat) (hf : l.canFast = false) : headOk (l.enqueue i) := by
  intro hl w r hw
  have hl' : l.locked = false := hl
  cases hq : l.waiters with
  | nil => simp [ALock.canFast, hl', hq] at hf
  | cons a as =>
    simp only [ALock.enqueue, hq, List.cons_append, List.cons.injEq] at hw
    rw [← hw.1]; exact h hl' a as hq

theorem headOk_markCancel {l : ALock} (h : headOk l) (i : Nat) : headOk (l.markCancel i) := by
  intro hl w r hw
  have hl' : l.locked = false := hl
  cases hq : l.waiters with
  | nil => simp [ALock.markCancel, hq] at hw
  | cons a as =>
    simp only [ALock.markCancel, hq, List.map_cons, List.cons.injEq] at hw
    have ha := h hl' a as hq
    rw [← hw.1]
    unfold cancelW
    split
    · obtain ⟨x, y⟩ := a
      cases y <;> simp [WSt.cancel] at ha ⊢
    · exact ha

theorem headOk_unwind (l : ALock) (i : Nat) : headOk (l.unwind i) := by
  rw [unwind_eq]
  split
  · rename_i h; exact headOk_locked h
  · exact headOk_wakeFirst _

end Pymap.RWLock
