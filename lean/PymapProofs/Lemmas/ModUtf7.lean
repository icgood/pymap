import PymapModel.ModUtf7
import PymapProofs.Lemmas.Pack
import PymapProofs.Lemmas.Span
/-!
# The layers of modified UTF-7 are inverse to each other: UTF-16BE, base64 sextets, the alphabet, one shifted run
-/
namespace Pymap.ModUtf7

theorem scalar_iff (c : Nat) : scalar c = true ↔ (c < 0xD800 ∨ (0xDFFF < c ∧ c ≤ 0x10FFFF)) := by
  unfold scalar; simp only [Bool.or_eq_true, Bool.and_eq_true, decide_eq_true_eq]

theorem b64dec_b64enc (bs : List Nat) (h : ∀ b ∈ bs, b < 256) : b64dec (b64enc bs) = some bs := by
  fun_induction b64enc bs with
  | case1 => rfl
  | case2 a =>
    simp only [b64dec, Nat.mul_mod_left, if_true, Nat.mul_div_cancel _ (by decide : 0 < 16), Nat.div_add_mod']
  | case3 a b =>
    have hb : b / 16 < 16 := Nat.div_lt_of_lt_mul (h b (by simp))
    simp only [b64dec, Nat.mul_mod_left, if_true, pack_div hb, Nat.mul_add_mod_of_lt hb,
      Nat.mul_div_cancel _ (by decide : 0 < 4), Nat.div_add_mod']
  | case4 a b c r ih =>
    have hb : b / 16 < 16 := Nat.div_lt_of_lt_mul (h b (by simp))
    have hc : c / 64 < 4 := Nat.div_lt_of_lt_mul (h c (by simp))
    simp only [b64dec, ih (fun x hx => h x (by simp [hx])), pack_div hb, pack_div hc,
      Nat.mul_add_mod_of_lt hb, Nat.mul_add_mod_of_lt hc, Nat.div_add_mod']

theorem b64enc_lt (bs : List Nat) (h : ∀ b ∈ bs, b < 256) : ∀ s ∈ b64enc bs, s < 64 := by
  fun_induction b64enc bs with
  | case1 => nofun
  | case2 a =>
    simp only [List.forall_mem_cons] at h ⊢
    exact ⟨Nat.div_lt_of_lt_mul h.1, Nat.mul_lt_mul_of_lt_of_le (Nat.mod_lt a (by decide)) (Nat.le_refl 16) (by decide), nofun⟩
  | case3 a b =>
    simp only [List.forall_mem_cons] at h ⊢
    exact ⟨Nat.div_lt_of_lt_mul h.1, pack_lt (m := 4) (Nat.mod_lt a (by decide)) (Nat.div_lt_of_lt_mul h.2.1),
      Nat.mul_lt_mul_of_lt_of_le (Nat.mod_lt b (by decide)) (Nat.le_refl 4) (by decide), nofun⟩
  | case4 a b c r ih =>
    simp only [List.forall_mem_cons] at h ⊢
    exact ⟨Nat.div_lt_of_lt_mul h.1, pack_lt (m := 4) (Nat.mod_lt a (by decide)) (Nat.div_lt_of_lt_mul h.2.1),
      pack_lt (m := 16) (Nat.mod_lt b (by decide)) (Nat.div_lt_of_lt_mul h.2.2.1), Nat.mod_lt c (by decide),
      ih h.2.2.2⟩

theorem b64enc_ne_nil : ∀ (bs : List Nat), bs ≠ [] → b64enc bs ≠ []
  | [], h => absurd rfl h
  | [_], _ | [_, _], _ | _ :: _ :: _ :: _, _ => List.cons_ne_nil _ _

theorem ofChar_toChar : ∀ s, s < 64 → ofChar (toChar s) = some s := by decide

theorem printable_iff (c : Nat) : printable c = true ↔ 32 ≤ c ∧ c ≤ 126 := by
  simp only [printable, Bool.and_eq_true, decide_eq_true_eq]

theorem toChar_bounds (s : Nat) : printable (toChar s) = true ∧ toChar s ≠ dash := by
  rw [printable_iff, toChar, dash]
  by_cases h1 : s < 26
  · rw [if_pos h1]; omega
  rw [if_neg h1]
  by_cases h2 : s < 52
  · rw [if_pos h2]; omega
  rw [if_neg h2]
  by_cases h3 : s < 62
  · rw [if_pos h3]; omega
  rw [if_neg h3]
  by_cases h4 : s = 62
  · rw [if_pos h4]; decide
  · rw [if_neg h4]; decide

theorem allSome_ofChar_toChar (l : List Nat) (h : ∀ s ∈ l, s < 64) : allSome ((l.map toChar).map ofChar) = some l := by
  induction l with
  | nil => rfl
  | cons s r ih =>
    have ⟨hs, hr⟩ := List.forall_mem_cons.1 h
    simp only [List.map_cons, ofChar_toChar s hs, allSome, ih hr, Option.map_some]

theorem unutf16_unit (u : Nat) (r : List Nat) (h : u < 0xD800 ∨ 0xDFFF < u) :
    unutf16 (u / 256 :: u % 256 :: r) = (unutf16 r).map (u :: ·) := by
  rw [unutf16.eq_def]; dsimp only
  rw [Nat.div_add_mod', if_neg (by omega), if_neg (by omega)]

theorem unutf16_pair (x : Nat) (r : List Nat) (hx : x < 0x100000) :
    unutf16 ((0xD800 + x / 1024) / 256 :: (0xD800 + x / 1024) % 256 ::
      (0xDC00 + x % 1024) / 256 :: (0xDC00 + x % 1024) % 256 :: r) = (unutf16 r).map ((0x10000 + x) :: ·) := by
  have h1 : x / 1024 < 1024 := Nat.div_lt_of_lt_mul hx
  have h2 : x % 1024 < 1024 := Nat.mod_lt _ (by decide)
  rw [unutf16.eq_def]; dsimp only
  rw [Nat.div_add_mod', Nat.div_add_mod', if_pos ⟨Nat.le_add_right _ _, Nat.add_lt_add_left h1 _⟩,
    if_pos ⟨Nat.le_add_right _ _, Nat.add_lt_add_left h2 _⟩, Nat.add_sub_cancel_left, Nat.add_sub_cancel_left,
    Nat.add_assoc, Nat.div_add_mod']

theorem unutf16_utf16 (cps : List Nat) (h : ∀ c ∈ cps, scalar c = true) : unutf16 (utf16 cps) = some cps := by
  fun_induction utf16 cps with
  | case1 => rfl
  | case2 c r _ ih =>
    have ⟨hc, hr⟩ := List.forall_mem_cons.1 h
    rw [scalar_iff] at hc
    rw [unutf16_unit c _ (hc.imp_right And.left), ih hr]; rfl
  | case3 c r hge hi lo ih =>
    have ⟨hc, hr⟩ := List.forall_mem_cons.1 h
    rw [scalar_iff] at hc
    have hx : c - 0x10000 < 0x100000 := by omega
    rw [unutf16_pair (c - 0x10000) _ hx, ih hr, Nat.add_sub_cancel' (Nat.le_of_not_lt hge)]; rfl

theorem utf16_lt (cps : List Nat) (h : ∀ c ∈ cps, scalar c = true) : ∀ b ∈ utf16 cps, b < 256 := by
  have byte (u : Nat) : u % 256 < 256 := Nat.mod_lt u (by decide)
  fun_induction utf16 cps with
  | case1 => nofun
  | case2 c r hlt ih =>
    simp only [List.forall_mem_cons]
    exact ⟨Nat.div_lt_of_lt_mul hlt, byte c, ih (List.forall_mem_cons.1 h).2⟩
  | case3 c r _ hi lo ih =>
    have ⟨hc, hr⟩ := List.forall_mem_cons.1 h
    rw [scalar_iff] at hc
    have h1 : (c - 0x10000) / 1024 < 1024 := Nat.div_lt_of_lt_mul (by omega)
    have h2 : (c - 0x10000) % 1024 < 1024 := Nat.mod_lt _ (by decide)
    have hhi : hi < 256 * 256 := Nat.lt_of_lt_of_le (Nat.add_lt_add_left h1 _) (by decide)
    have hlo : lo < 256 * 256 := Nat.lt_of_lt_of_le (Nat.add_lt_add_left h2 _) (by decide)
    simp only [List.forall_mem_cons]
    exact ⟨Nat.div_lt_of_lt_mul hhi, byte _, Nat.div_lt_of_lt_mul hlo, byte _, ih hr⟩

theorem utf16_ne_nil : ∀ (cps : List Nat), cps ≠ [] → utf16 cps ≠ []
  | [], h => absurd rfl h
  | c :: r, _ => by rw [utf16]; split <;> exact List.cons_ne_nil _ _

theorem decodeRun_encodeRun (run : List Nat) (h : ∀ c ∈ run, scalar c = true) :
    decodeRun (encodeRun run) = some run := by
  have hb := utf16_lt run h
  simp only [decodeRun, encodeRun, allSome_ofChar_toChar _ (b64enc_lt _ hb), Option.bind_some, b64dec_b64enc _ hb, unutf16_utf16 run h]

theorem encodeRun_bounds (run : List Nat) : ∀ b ∈ encodeRun run, printable b = true ∧ b ≠ dash := by
  simp only [encodeRun, List.forall_mem_map]
  exact fun s _ => toChar_bounds s

theorem encodeRun_ne_nil (run : List Nat) (h : run ≠ []) : encodeRun run ≠ [] :=
  fun e => b64enc_ne_nil _ (utf16_ne_nil run h) (List.map_eq_nil_iff.1 e)

theorem spanDash_eq : ∀ l, spanDash l = (l.takeWhile (· != dash), l.dropWhile (· != dash)) :=
  scanner_eq_span _ rfl fun b r => by rw [spanDash]; simp only [bne_iff_ne, ne_eq, ite_not]

theorem spanRun_eq : ∀ l, spanRun l = (l.takeWhile (!printable ·), l.dropWhile (!printable ·)) :=
  scanner_eq_span _ rfl fun c r => by rw [spanRun]; cases printable c <;> rfl

end Pymap.ModUtf7
