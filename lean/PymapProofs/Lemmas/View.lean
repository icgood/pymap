import PymapProofs.Lemmas.Sync
/-! What `_update` and `_remove` do to the uids, the pending set and the recorded flags of a view (C02) -/
namespace Pymap.Sync

theorem updateLoop_uids (v : View) (lo : Option Nat) (msgs : List CMsg) (u : Nat) :
    u ∈ (updateLoop v lo msgs).1.uids ↔ u ∈ v.uids ∨ u ∈ msgs.map (·.uid) := by
  induction msgs generalizing v lo with
  | nil => simp [updateLoop]
  | cons m ms ih =>
    simp only [updateLoop, List.map_cons, List.mem_cons]
    split
    · rename_i hm
      rw [ih]
      exact ⟨Or.imp_right Or.inr, fun h => h.elim Or.inl (fun h => h.elim (fun e => Or.inl (e ▸ hm)) Or.inr)⟩
    · rw [ih, List.mem_cons, or_assoc, or_left_comm]

theorem update_uids (v : View) (msgs : List CMsg) (u : Nat) :
    u ∈ (update v msgs).uids ↔ u ∈ v.uids ∨ u ∈ msgs.map (·.uid) := by
  obtain ⟨s, h⟩ := update_eq_updateLoop v msgs
  rw [h]; exact updateLoop_uids v none msgs u

theorem updateLoop_pending (v : View) (lo : Option Nat) (msgs : List CMsg) :
    (updateLoop v lo msgs).1.pending = v.pending := by
  induction msgs generalizing v lo with
  | nil => rfl
  | cons m ms ih => simp only [updateLoop]; split <;> rw [ih]

theorem update_pending (v : View) (msgs : List CMsg) : (update v msgs).pending = v.pending := by
  obtain ⟨s, h⟩ := update_eq_updateLoop v msgs
  rw [h]; exact updateLoop_pending v none msgs

theorem updateLoop_fkeys (v : View) (lo : Option Nat) (msgs : List CMsg) :
    (updateLoop v lo msgs).1.fkeys = (msgs.map (fun m => (m.uid, m.flags))).reverse ++ v.fkeys := by
  induction msgs generalizing v lo with
  | nil => rfl
  | cons m ms ih =>
    rw [updateLoop, List.map_cons, List.reverse_cons, List.append_assoc]
    split <;> exact ih ..

theorem update_fkeys (v : View) (msgs : List CMsg) :
    (update v msgs).fkeys = (msgs.map (fun m => (m.uid, m.flags))).reverse ++ v.fkeys := by
  obtain ⟨s, h⟩ := update_eq_updateLoop v msgs
  rw [h]; exact updateLoop_fkeys v none msgs

/-- `_remove` outside pending mode: when the filter removes nothing the view is kept, and then the filter is the identity -/
theorem remove_uids_nonpending_eq (v : View) (exp : List Nat) :
    (remove v exp false).uids = v.uids.filter (fun u => !((exp ++ v.pending).contains u)) := by
  unfold remove
  simp only [Bool.false_eq_true, if_false]
  split
  · rename_i hlen
    exact (List.filter_eq_self.2 (List.length_filter_eq_length_iff.1 hlen)).symm
  · rfl

theorem remove_pending_nonpending (v : View) (exp : List Nat) : (remove v exp false).pending = [] := by
  unfold remove; simp only [Bool.false_eq_true, if_false]; split <;> rfl

theorem remove_uids_pending (v : View) (exp : List Nat) : (remove v exp true).uids = v.uids := rfl

theorem remove_flagsOf (v : View) (exp : List Nat) (pm : Bool) (u : Nat)
    (hu : u ∈ (remove v exp pm).uids) : (remove v exp pm).flagsOf u = v.flagsOf u := by
  cases pm with
  | true => rfl
  | false =>
    rw [remove_uids_nonpending_eq] at hu
    unfold remove
    simp only [Bool.false_eq_true, if_false]
    split
    · rfl
    · exact lookup_filter_key _ u (List.contains_iff_mem.2 hu) v.fkeys

end Pymap.Sync
