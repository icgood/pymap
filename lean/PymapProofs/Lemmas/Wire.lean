import PymapModel.Wire
/-!
# The primitive wire syntax: what `skipSpaces`, `scanQuoted` and `buildString` do on the shapes the serialisers write

`Grammar.skipQuoted`, the strict recogniser's reading of a quoted string, has the same four lemmas in `Lemmas/Grammar.lean`;
the facts about `digits` are there too, beside `readNum`, which reads what `digits` writes.
-/
namespace Pymap.Wire

theorem skipSpaces_of_ne (b : Nat) (r : List Nat) (h : b ≠ 32) : skipSpaces (b :: r) = b :: r := by
  unfold skipSpaces
  split
  · exact absurd (List.cons.inj ‹_›).1 h
  · rfl

theorem scanQuoted_dq (acc r : List Nat) : scanQuoted acc (dq :: r) = some (acc.reverse, r) := by
  rw [scanQuoted.eq_def]; simp only [if_true]

theorem scanQuoted_esc (acc : List Nat) (c : Nat) (r : List Nat) (hc : c = bs ∨ c = dq) :
    scanQuoted acc (bs :: c :: r) = scanQuoted (c :: acc) r := by
  rw [scanQuoted.eq_def]
  simp only [(by decide : ¬ bs = dq), (by decide : ¬ (bs = 13 ∨ bs = 10)), hc, if_false, if_true]

theorem scanQuoted_plain (acc : List Nat) (b : Nat) (r : List Nat) (h1 : b ≠ dq) (h2 : b ≠ bs) (h3 : b ≠ 13 ∧ b ≠ 10) :
    scanQuoted acc (b :: r) = scanQuoted (b :: acc) r := by
  rw [scanQuoted.eq_def]; simp only [h1, h2, h3, or_self, if_false]

theorem scanQuoted_escape (v rest acc : List Nat) (h : ∀ b ∈ v, b ≠ 13 ∧ b ≠ 10) :
    scanQuoted acc (escape v ++ dq :: rest) = some (acc.reverse ++ v, rest) := by
  induction v generalizing acc with
  | nil => rw [escape, List.nil_append, scanQuoted_dq, List.append_nil]
  | cons b r ih =>
    have ⟨hb, hr⟩ := List.forall_mem_cons.1 h
    rw [escape]; split
    · rw [List.cons_append, List.cons_append, scanQuoted_esc _ _ _ (Or.symm ‹_›), ih _ hr, List.reverse_cons,
        List.append_assoc, List.singleton_append]
    · rw [List.cons_append, scanQuoted_plain _ _ _ (fun e => ‹¬ _› (Or.inl e)) (fun e => ‹¬ _› (Or.inr e)) hb, ih _ hr,
        List.reverse_cons, List.append_assoc, List.singleton_append]

theorem buildString_cases (binary : Bool) (v : List Nat) :
    (buildString binary v = serQuoted v ∧ ∀ b ∈ v, b ≠ 13 ∧ b ≠ 10 ∧ b ≠ 0) ∨ buildString binary v = serLiteral binary v := by
  unfold buildString
  split
  · rw [List.isEmpty_iff.1 ‹v.isEmpty = true›]; exact .inl ⟨rfl, nofun⟩
  · split
    · refine .inl ⟨rfl, fun b hb => ?_⟩
      have hc := ‹(_ && _) = true›
      simp only [Bool.and_eq_true, Bool.not_eq_true', List.contains_eq_mem, decide_eq_false_iff_not] at hc
      exact ⟨fun e => hc.2 (e ▸ hb), fun e => hc.1.1.2 (e ▸ hb), fun e => hc.1.2 (e ▸ hb)⟩
    · exact .inr rfl

end Pymap.Wire
