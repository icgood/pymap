import PymapModel.ModSeq
/-!
Invariant and specification of the change log `_ModSequenceMapping`.

`_set` treats `_updates` and `_expunges` alike, so every lemma is stated once for the bucket map
`l.bucket j` of kind `j`; under the invariant `inB j l q u` ("`u` is in bucket `q` of kind `j`") is
the graph of a partial function `u ↦ (q, j)` with domain `dom l.last`, and `inB_set` says what
`_set` does to that function.
-/
namespace Pymap.ModSeq

section
variable {β : Type}

theorem alookup_adel (k k' : Nat) (l : List (Nat × β)) :
    alookup k' (adel k l) = if k' = k then none else alookup k' l := by
  induction l with
  | nil => exact (ite_self none).symm
  | cons p r ih =>
    obtain ⟨a, v⟩ := p
    by_cases h : a = k
    · have : adel k ((a, v) :: r) = adel k r := List.filter_cons_of_neg (by simp [h])
      rw [this, ih, alookup]
      by_cases e : k' = k
      · rw [if_pos e, if_pos e]
      · rw [if_neg e, if_neg e, if_neg (h ▸ e)]
    · have : adel k ((a, v) :: r) = (a, v) :: adel k r := List.filter_cons_of_pos (by simp [h])
      rw [this, alookup, alookup, ih]
      by_cases e : k' = a
      · rw [if_pos e, if_neg (e ▸ h), if_pos e]
      · rw [if_neg e, if_neg e]

theorem alookup_aset (k k' : Nat) (v : β) (l : List (Nat × β)) :
    alookup k' (aset k v l) = if k' = k then some v else alookup k' l := by
  simp only [aset, alookup, alookup_adel]; split <;> rfl

end

structure LogInv (l : Log) : Prop where
  sorted   : l.order.Pairwise (· < ·)
  le       : ∀ m ∈ l.order, m ≤ l.highest
  keysU    : ∀ m s, alookup m l.updates = some s → m ∈ l.order
  keysE    : ∀ m s, alookup m l.expunges = some s → m ∈ l.order
  disj     : ∀ m s, alookup m l.updates = some s → alookup m l.expunges = none
  memU     : ∀ m s u, alookup m l.updates = some s → u ∈ s → alookup u l.last = some m
  memE     : ∀ m s u, alookup m l.expunges = some s → u ∈ s → alookup u l.last = some m
  lastMem  : ∀ u m, alookup u l.last = some m →
      (∃ s, alookup m l.updates = some s ∧ u ∈ s) ∨ (∃ s, alookup m l.expunges = some s ∧ u ∈ s)

theorem LogInv.empty : LogInv Log.empty :=
  ⟨.nil, nofun, nofun, nofun, nofun, nofun, nofun, nofun⟩

theorem mem_erase_iff_of_nodup {l : List Nat} (h : l.Nodup) {a x : Nat} :
    x ∈ l.erase a ↔ x ≠ a ∧ x ∈ l :=
  List.Nodup.mem_erase_iff h

theorem pairwise_lt_nodup {l : List Nat} (h : l.Pairwise (· < ·)) : l.Nodup :=
  h.imp Nat.ne_of_lt

/-- `_updates` or `_expunges` -/
def Log.bucket (l : Log) : Kind → List (Nat × List Nat)
  | .upd => l.updates
  | .exp => l.expunges

def inB (j : Kind) (l : Log) (q u : Nat) : Prop := ∃ s, alookup q (l.bucket j) = some s ∧ u ∈ s

def inU (l : Log) (q u : Nat) : Prop := ∃ s, alookup q l.updates = some s ∧ u ∈ s
def inE (l : Log) (q u : Nat) : Prop := ∃ s, alookup q l.expunges = some s ∧ u ∈ s

theorem inU_eq : inU = inB .upd := rfl

theorem LogInv.not_inU_of_inE {l : Log} (h : LogInv l) {m u : Nat} (he : inE l m u) : ¬ inU l m u := by
  rintro ⟨s, hs, -⟩
  obtain ⟨s', hs', -⟩ := he
  rw [h.disj m s hs] at hs'; contradiction

/-- a bucket after one uid has been discarded from it (`none` = bucket deleted) -/
def clean (u : Nat) : Option (List Nat) → Option (List Nat)
  | none => none
  | some s => if (s.filter (fun x => x != u)).isEmpty then none else some (s.filter (fun x => x != u))

theorem mem_clean {u x : Nat} {o : Option (List Nat)} :
    (∃ s, clean u o = some s ∧ x ∈ s) ↔ (∃ s, o = some s ∧ x ∈ s) ∧ x ≠ u := by
  cases o with
  | none => exact ⟨nofun, nofun⟩
  | some s0 =>
    have hmem : x ∈ s0.filter (fun x => x != u) ↔ x ∈ s0 ∧ x ≠ u := by
      rw [List.mem_filter, bne_iff_ne]
    simp only [clean, Option.some.injEq, exists_eq_left']
    split
    · rename_i he
      rw [List.isEmpty_iff] at he
      rw [← hmem, he]
      exact ⟨nofun, nofun⟩
    · simp only [Option.some.injEq, exists_eq_left', hmem]

theorem removePrev_fst (u p q : Nat) (data : List (Nat × List Nat)) (order : List Nat) :
    alookup q (removePrev u p data order).1 =
      if q = p then clean u (alookup q data) else alookup q data := by
  unfold removePrev
  by_cases hq : q = p
  · subst hq
    cases h : alookup q data with
    | none => simpa [clean] using h
    | some s => simp only [clean, if_true]; split <;> simp [alookup_adel, alookup_aset]
  · rw [if_neg hq]
    split
    · rfl
    · dsimp only; split <;> simp [alookup_adel, alookup_aset, hq]

theorem removePrev_sublist (u p : Nat) (data : List (Nat × List Nat)) (order : List Nat) :
    (removePrev u p data order).2.Sublist order := by
  unfold removePrev
  split
  · exact .refl _
  · dsimp only; split
    · exact List.erase_sublist
    · exact .refl _

/-- `p` leaves `_mod_seqs_order` only when its bucket was there and is deleted -/
theorem mem_removePrev_snd (u p : Nat) (data : List (Nat × List Nat)) {order : List Nat} {x : Nat}
    (hx : x ∈ order) (h : x = p → alookup p data = none ∨ alookup p (removePrev u p data order).1 ≠ none) :
    x ∈ (removePrev u p data order).2 := by
  rw [removePrev_fst, if_pos rfl] at h
  unfold removePrev
  split
  · exact hx
  · rename_i s hs
    dsimp only; split
    · rename_i he
      refine (List.mem_erase_of_ne fun e => ?_).2 hx
      simpa [hs, clean, he] using h e
    · exact hx

theorem setOne_highest (m : Nat) (l : Log) (u : Nat) : (setOne m l u).highest = l.highest := by
  unfold setOne; split <;> rfl

theorem setOne_last (m : Nat) (l : Log) (u u' : Nat) :
    alookup u' (setOne m l u).last = if u' = u then some m else alookup u' l.last := by
  unfold setOne; split <;> exact alookup_aset ..

theorem setOne_bucket (m : Nat) (l : Log) (u : Nat) (j : Kind) (q : Nat) :
    alookup q ((setOne m l u).bucket j) =
      if alookup u l.last = some q then clean u (alookup q (l.bucket j)) else alookup q (l.bucket j) := by
  unfold setOne
  cases hp : alookup u l.last with
  | none => cases j <;> simp [Log.bucket]
  | some p => cases j <;> simp only [Log.bucket, removePrev_fst, Option.some.injEq, eq_comm (a := p)]

theorem setOne_order_sublist (m : Nat) (l : Log) (u : Nat) : (setOne m l u).order.Sublist l.order := by
  unfold setOne
  split
  · exact .refl _
  · exact (removePrev_sublist ..).trans (removePrev_sublist ..)

/-- `x` stays in `_mod_seqs_order` unless one of its two buckets is deleted -/
theorem mem_setOne_order (m : Nat) {l : Log} {u x : Nat} (hx : x ∈ l.order)
    (h : ∀ j, alookup x (l.bucket j) = none ∨ alookup x ((setOne m l u).bucket j) ≠ none) :
    x ∈ (setOne m l u).order := by
  revert h
  unfold setOne
  split
  · exact fun _ => hx
  · exact fun h => mem_removePrev_snd _ _ _ (mem_removePrev_snd _ _ _ hx fun e => e ▸ h .upd) fun e => e ▸ h .exp

theorem inB_setOne (m : Nat) (l : Log) (u : Nat) (j : Kind) (q u' : Nat) :
    inB j (setOne m l u) q u' ↔ inB j l q u' ∧ (u' = u → alookup u l.last ≠ some q) := by
  unfold inB
  rw [setOne_bucket]
  split
  · rename_i h
    rw [mem_clean]
    exact and_congr_right fun _ => ⟨fun hne e => absurd e hne, fun hi e => hi e h⟩
  · rename_i h
    exact (and_iff_left fun _ => h).symm

/-- mid-loop invariant of `_set`: `rest` are the uids of the new bucket `m` not yet re-pointed -/
structure MidInv (m : Nat) (k : Kind) (rest : List Nat) (l : Log) : Prop where
  hm       : l.highest = m
  sorted   : l.order.Pairwise (· < ·)
  le       : ∀ x ∈ l.order, x ≤ l.highest
  keysU    : ∀ x s, alookup x l.updates = some s → x ∈ l.order
  keysE    : ∀ x s, alookup x l.expunges = some s → x ∈ l.order
  disj     : ∀ x s, alookup x l.updates = some s → alookup x l.expunges = none
  memU     : ∀ x s u, alookup x l.updates = some s → u ∈ s →
                alookup u l.last = some x ∨ (k = .upd ∧ x = m ∧ u ∈ rest)
  memE     : ∀ x s u, alookup x l.expunges = some s → u ∈ s →
                alookup u l.last = some x ∨ (k = .exp ∧ x = m ∧ u ∈ rest)
  lastMem  : ∀ u x, alookup u l.last = some x →
      (∃ s, alookup x l.updates = some s ∧ u ∈ s) ∨ (∃ s, alookup x l.expunges = some s ∧ u ∈ s)
  restLt   : ∀ u ∈ rest, ∀ p, alookup u l.last = some p → p < m
  restIn   : ∀ u ∈ rest, (k = .upd ∧ ∃ s, alookup m l.updates = some s ∧ u ∈ s) ∨
                          (k = .exp ∧ ∃ s, alookup m l.expunges = some s ∧ u ∈ s)

theorem midInv_nil {l : Log} {k : Kind} : MidInv l.highest k [] l ↔ LogInv l :=
  ⟨fun h => ⟨h.sorted, h.le, h.keysU, h.keysE, h.disj,
      fun x s u hx hu => (h.memU x s u hx hu).resolve_right (fun h' => List.not_mem_nil h'.2.2),
      fun x s u hx hu => (h.memE x s u hx hu).resolve_right (fun h' => List.not_mem_nil h'.2.2), h.lastMem⟩,
   fun h => ⟨rfl, h.sorted, h.le, h.keysU, h.keysE, h.disj, fun x s u hx hu => .inl (h.memU x s u hx hu),
      fun x s u hx hu => .inl (h.memE x s u hx hu), h.lastMem, nofun, nofun⟩⟩

namespace MidInv
variable {m : Nat} {k : Kind} {rest : List Nat} {l : Log}

/-! the fields, and the constructor, with both kinds of bucket in one statement -/

theorem keys (h : MidInv m k rest l) (j : Kind) {x : Nat} {s : List Nat} :
    alookup x (l.bucket j) = some s → x ∈ l.order := by
  cases j; exact h.keysU x s; exact h.keysE x s

theorem disj' (h : MidInv m k rest l) {j j' : Kind} (hne : j ≠ j') {x : Nat} {s : List Nat}
    (hx : alookup x (l.bucket j) = some s) : alookup x (l.bucket j') = none := by
  cases j <;> cases j'
  · exact absurd rfl hne
  · exact h.disj x s hx
  · exact Option.eq_none_iff_forall_ne_some.2 fun s' hU => nomatch (h.disj x s' hU).symm.trans hx
  · exact absurd rfl hne

theorem mem (h : MidInv m k rest l) {j : Kind} {x u : Nat} (hx : inB j l x u) :
    alookup u l.last = some x ∨ (k = j ∧ x = m ∧ u ∈ rest) := by
  obtain ⟨s, hs, hu⟩ := hx
  cases j; exact h.memU x s u hs hu; exact h.memE x s u hs hu

theorem lastMem' (h : MidInv m k rest l) {u x : Nat} (hx : alookup u l.last = some x) :
    ∃ j, inB j l x u :=
  (h.lastMem u x hx).elim (fun h => ⟨.upd, h⟩) (fun h => ⟨.exp, h⟩)

theorem restIn' (h : MidInv m k rest l) {u : Nat} (hu : u ∈ rest) : inB k l m u := by
  rcases h.restIn u hu with ⟨rfl, h'⟩ | ⟨rfl, h'⟩ <;> exact h'

theorem intro (hm : l.highest = m) (sorted : l.order.Pairwise (· < ·)) (le : ∀ x ∈ l.order, x ≤ l.highest)
    (keys : ∀ j x s, alookup x (l.bucket j) = some s → x ∈ l.order)
    (disj : ∀ j j', j ≠ j' → ∀ x s, alookup x (l.bucket j) = some s → alookup x (l.bucket j') = none)
    (mem : ∀ j x u, inB j l x u → alookup u l.last = some x ∨ (k = j ∧ x = m ∧ u ∈ rest))
    (lastMem : ∀ u x, alookup u l.last = some x → ∃ j, inB j l x u)
    (restLt : ∀ u ∈ rest, ∀ p, alookup u l.last = some p → p < m)
    (restIn : ∀ u ∈ rest, inB k l m u) : MidInv m k rest l where
  hm := hm
  sorted := sorted
  le := le
  keysU := keys .upd
  keysE := keys .exp
  disj := disj .upd .exp (by decide)
  memU := fun x s u hx hu => mem .upd x u ⟨s, hx, hu⟩
  memE := fun x s u hx hu => mem .exp x u ⟨s, hx, hu⟩
  lastMem := fun u x hx => by
    obtain ⟨j, hj⟩ := lastMem u x hx
    cases j; exact .inl hj; exact .inr hj
  restLt := restLt
  restIn := fun u hu => by
    have := restIn u hu
    cases k; exact .inl ⟨rfl, this⟩; exact .inr ⟨rfl, this⟩

/-- in one round `u` is taken out of every bucket but the new one -/
theorem inB_step {u : Nat} (h : MidInv m k (u :: rest) l) (j : Kind) (q u' : Nat) :
    inB j (setOne m l u) q u' ↔ inB j l q u' ∧ (u' = u → q = m) := by
  rw [inB_setOne]
  refine and_congr_right fun hq => forall_congr' fun e => ?_
  subst e
  constructor
  · exact fun hl => (h.mem hq).elim (absurd · hl) (·.2.1)
  · rintro rfl hl
    exact Nat.lt_irrefl _ (h.restLt u' List.mem_cons_self q hl)

theorem step {u : Nat} (h : MidInv m k (u :: rest) l) (hu : u ∉ rest) : MidInv m k rest (setOne m l u) := by
  have hne : ∀ {u'}, u' ∈ rest → u' ≠ u := fun h e => hu (e ▸ h)
  -- a bucket present after the round was present before it
  have hkey : ∀ {j x s}, alookup x ((setOne m l u).bucket j) = some s → ∃ s0, alookup x (l.bucket j) = some s0 := by
    intro j x s hx
    cases h0 : alookup x (l.bucket j) with
    | some s0 => exact ⟨s0, rfl⟩
    | none => rw [setOne_bucket, h0] at hx; split at hx <;> contradiction
  apply MidInv.intro
  case hm => rw [setOne_highest, h.hm]
  case sorted => exact h.sorted.sublist (setOne_order_sublist ..)
  case le => intro x hx; rw [setOne_highest]; exact h.le x ((setOne_order_sublist ..).subset hx)
  case keys =>
    intro j x s hx
    obtain ⟨s0, h0⟩ := hkey hx
    refine mem_setOne_order _ (h.keys j h0) fun j' => ?_
    by_cases hj : j = j'
    · subst hj; exact .inr (hx ▸ Option.some_ne_none s)
    · exact .inl (h.disj' hj h0)
  case disj =>
    intro j j' hj x s hx
    obtain ⟨s0, h0⟩ := hkey hx
    rw [setOne_bucket, h.disj' hj h0]
    split <;> rfl
  case mem =>
    intro j x u' hx
    rw [h.inB_step] at hx
    rw [setOne_last]
    by_cases e : u' = u
    · exact .inl (by rw [if_pos e, hx.2 e])
    · rw [if_neg e]
      exact (h.mem hx.1).imp_right fun ⟨h1, h2, h3⟩ => ⟨h1, h2, (List.mem_cons.1 h3).resolve_left e⟩
  case lastMem =>
    intro u' x hx
    rw [setOne_last] at hx
    by_cases e : u' = u
    · rw [if_pos e] at hx
      cases hx
      exact ⟨k, (h.inB_step ..).2 ⟨h.restIn' (e ▸ List.mem_cons_self), fun _ => rfl⟩⟩
    · rw [if_neg e] at hx
      exact (h.lastMem' hx).imp fun j hj => (h.inB_step ..).2 ⟨hj, fun e' => absurd e' e⟩
  case restLt =>
    intro u' hu' p hp
    rw [setOne_last, if_neg (hne hu')] at hp
    exact h.restLt u' (List.mem_cons_of_mem _ hu') p hp
  case restIn =>
    intro u' hu'
    exact (h.inB_step ..).2 ⟨h.restIn' (List.mem_cons_of_mem _ hu'), fun _ => rfl⟩

theorem foldl : ∀ {rest : List Nat} {l : Log}, MidInv m k rest l → rest.Nodup →
    MidInv m k [] (rest.foldl (setOne m) l) ∧
    ∀ j q u, inB j (rest.foldl (setOne m) l) q u ↔ inB j l q u ∧ (u ∈ rest → q = m) := by
  intro rest
  induction rest with
  | nil => exact fun h _ => ⟨h, fun j q u => (and_iff_left nofun).symm⟩
  | cons a rest ih =>
    intro l h hnd
    rw [List.nodup_cons] at hnd
    obtain ⟨ih1, ih2⟩ := ih (h.step hnd.1) hnd.2
    refine ⟨ih1, fun j q u => ?_⟩
    rw [List.foldl_cons, ih2, h.inB_step, and_assoc, List.mem_cons, or_imp]

end MidInv

/-! `LogInv` by kind of bucket: it is the loop invariant with nothing left to do (`midInv_nil`, for whichever kind) -/
namespace LogInv
variable {l : Log}

theorem keys (h : LogInv l) (j : Kind) {x : Nat} {s : List Nat} (hx : alookup x (l.bucket j) = some s) : x ∈ l.order :=
  (midInv_nil (k := j).2 h).keys j hx

theorem disj' (h : LogInv l) {j j' : Kind} (hne : j ≠ j') {x : Nat} {s : List Nat}
    (hx : alookup x (l.bucket j) = some s) : alookup x (l.bucket j') = none :=
  (midInv_nil (k := j).2 h).disj' hne hx

theorem mem (h : LogInv l) {j : Kind} {x u : Nat} (hx : inB j l x u) : alookup u l.last = some x :=
  ((midInv_nil (k := j).2 h).mem hx).resolve_right fun h' => List.not_mem_nil h'.2.2

theorem lastMem' (h : LogInv l) {u x : Nat} (hx : alookup u l.last = some x) : ∃ j, inB j l x u :=
  (midInv_nil (k := .upd).2 h).lastMem' hx

end LogInv

/-- the log right after the new bucket has been created, before the per-uid loop -/
def set1 (l : Log) (uids : List Nat) (k : Kind) : Log :=
  { l with highest := l.highest + 1, order := l.order ++ [l.highest + 1],
           updates := if k = .upd then aset (l.highest + 1) uids l.updates else l.updates,
           expunges := if k = .exp then aset (l.highest + 1) uids l.expunges else l.expunges }

theorem set_eq (l : Log) (uids : List Nat) (k : Kind) :
    set l uids k = uids.foldl (setOne (l.highest + 1)) (set1 l uids k) := by
  cases k <;> rfl

theorem set1_bucket (l : Log) (uids : List Nat) (k j : Kind) (x : Nat) :
    alookup x ((set1 l uids k).bucket j) =
      if k = j ∧ x = l.highest + 1 then some uids else alookup x (l.bucket j) := by
  cases k <;> cases j <;> simp [set1, Log.bucket, alookup_aset]

theorem LogInv.last_le {l : Log} (h : LogInv l) {u m : Nat} (hl : alookup u l.last = some m) :
    m ≤ l.highest := by
  obtain ⟨j, s, hs, -⟩ := h.lastMem' hl
  exact h.le m (h.keys j hs)

theorem LogInv.fresh {l : Log} (h : LogInv l) (j : Kind) : alookup (l.highest + 1) (l.bucket j) = none := by
  cases hs : alookup (l.highest + 1) (l.bucket j) with
  | none => rfl
  | some s => exact absurd (h.le _ (h.keys j hs)) (Nat.not_succ_le_self _)

theorem inB_set1 {l : Log} (h : LogInv l) (uids : List Nat) (k j : Kind) (x u : Nat) :
    inB j (set1 l uids k) x u ↔ (k = j ∧ x = l.highest + 1 ∧ u ∈ uids) ∨ inB j l x u := by
  unfold inB
  rw [set1_bucket]
  split
  · rename_i e; obtain ⟨rfl, rfl⟩ := e; simp [h.fresh]
  · rename_i e; simp only [iff_or_self]; rintro ⟨h1, h2, -⟩; exact absurd ⟨h1, h2⟩ e

theorem midInv_init {l : Log} (h : LogInv l) (uids : List Nat) (k : Kind) :
    MidInv (l.highest + 1) k uids (set1 l uids k) := by
  apply MidInv.intro
  case hm => rfl
  case sorted =>
    exact List.pairwise_append.2
      ⟨h.sorted, List.pairwise_singleton _ _, fun a ha b hb => List.mem_singleton.1 hb ▸ Nat.lt_succ_of_le (h.le a ha)⟩
  case le =>
    intro x hx
    rcases List.mem_append.1 hx with hx | hx
    · exact Nat.le_succ_of_le (h.le x hx)
    · exact Nat.le_of_eq (List.mem_singleton.1 hx)
  case keys =>
    intro j x s hx
    rw [set1_bucket] at hx
    refine List.mem_append.2 ?_
    split at hx
    · rename_i e
      exact .inr (List.mem_singleton.2 e.2)
    · exact .inl (h.keys j hx)
  case disj =>
    intro j j' hj x s hx
    rw [set1_bucket] at hx ⊢
    split at hx
    · rename_i e
      rw [if_neg fun e' => hj (e.1.symm.trans e'.1), e.2, h.fresh]
    · have hne : x ≠ l.highest + 1 := fun e' => by
        rw [e', h.fresh] at hx
        contradiction
      rw [if_neg fun e' => hne e'.2]
      exact h.disj' hj hx
  case mem =>
    intro j x u hx
    exact ((inB_set1 h ..).1 hx).symm.imp h.mem id
  case lastMem =>
    intro u x hx
    exact (h.lastMem' hx).imp fun j hj => (inB_set1 h ..).2 (.inr hj)
  case restLt =>
    intro u _ p hp
    exact Nat.lt_succ_of_le (h.last_le hp)
  case restIn =>
    intro u hu
    exact (inB_set1 h ..).2 (.inl ⟨rfl, rfl, hu⟩)

theorem foldl_setOne_highest (m : Nat) (us : List Nat) (l : Log) :
    (us.foldl (setOne m) l).highest = l.highest := by
  induction us generalizing l with
  | nil => rfl
  | cons a us ih => rw [List.foldl_cons, ih, setOne_highest]

theorem foldl_setOne_last (m : Nat) (us : List Nat) (l : Log) (u : Nat) :
    alookup u (us.foldl (setOne m) l).last = if u ∈ us then some m else alookup u l.last := by
  induction us generalizing l with
  | nil => rfl
  | cons a us ih =>
    rw [List.foldl_cons, ih, setOne_last]
    by_cases e : u = a <;> by_cases e' : u ∈ us <;> simp [e, e']

theorem set_highest (l : Log) (uids : List Nat) (k : Kind) : (set l uids k).highest = l.highest + 1 := by
  rw [set_eq, foldl_setOne_highest]; rfl

theorem set_last (l : Log) (uids : List Nat) (k : Kind) (u : Nat) :
    alookup u (set l uids k).last = if u ∈ uids then some (l.highest + 1) else alookup u l.last := by
  rw [set_eq, foldl_setOne_last]; rfl

/-- **`_set` preserves the log invariant** (for duplicate-free `uids`, which every caller passes) -/
theorem set_inv {l : Log} (h : LogInv l) (uids : List Nat) (hnd : uids.Nodup) (k : Kind) :
    LogInv (set l uids k) :=
  midInv_nil.1 <| by
    rw [set_highest, set_eq]
    exact ((midInv_init h uids k).foldl hnd).1

#print axioms set_inv

/-- **what `_set` does**: every uid of `uids` is now in the new bucket and nowhere else; no other uid moves -/
theorem inB_set {l : Log} (h : LogInv l) {uids : List Nat} (hnd : uids.Nodup) (k j : Kind) (q u : Nat) :
    inB j (set l uids k) q u ↔ if u ∈ uids then k = j ∧ q = l.highest + 1 else inB j l q u := by
  rw [set_eq, ((midInv_init h uids k).foldl hnd).2, inB_set1 h]
  split
  · rename_i hu
    have : ¬ inB j l (l.highest + 1) u := fun ⟨s, hs, _⟩ => by rw [h.fresh] at hs; contradiction
    constructor
    · rintro ⟨h1 | h1, h2⟩
      · exact ⟨h1.1, h1.2.1⟩
      · exact absurd (h2 hu ▸ h1) this
    · exact fun ⟨h1, h2⟩ => ⟨.inl ⟨h1, h2, hu⟩, fun _ => h2⟩
  · rename_i hu
    simp [hu]

/-- `bisect_left` on a strictly increasing list: the suffix from the first element `≥ p` -/
theorem mem_dropWhile_lt : ∀ {l : List Nat} {p x : Nat}, l.Pairwise (· < ·) →
    (x ∈ l.dropWhile (fun m => m < p) ↔ x ∈ l ∧ p ≤ x) := by
  intro l p x
  induction l with
  | nil => exact fun _ => ⟨nofun, nofun⟩
  | cons a as ih =>
    intro h
    rw [List.pairwise_cons] at h
    by_cases hap : a < p
    · rw [List.dropWhile_cons_of_pos (by simpa using hap), ih h.2, List.mem_cons]
      exact and_congr_left fun hpx => (or_iff_right fun (e : x = a) => Nat.not_le_of_lt hap (e ▸ hpx)).symm
    · rw [List.dropWhile_cons_of_neg (by simpa using hap)]
      refine (and_iff_left_of_imp fun hx => ?_).symm
      rcases List.mem_cons.1 hx with rfl | hx
      · exact Nat.le_of_not_lt hap
      · exact Nat.le_trans (Nat.le_of_not_lt hap) (Nat.le_of_lt (h.1 x hx))

/-- **completeness of `find_updated`**: exactly the uids whose last change is at or after `p`,
by the kind of that last change -/
theorem mem_findUpdated {l : Log} (h : LogInv l) (j : Kind) (p u : Nat) :
    u ∈ (l.order.dropWhile (fun m => m < p)).flatMap (fun m => (alookup m (l.bucket j)).getD []) ↔
      ∃ m, alookup u l.last = some m ∧ p ≤ m ∧ inB j l m u := by
  simp only [List.mem_flatMap, mem_dropWhile_lt h.sorted]
  constructor
  · rintro ⟨m, ⟨-, hpm⟩, hu⟩
    cases hs : alookup m (l.bucket j) with
    | none => simp [hs] at hu
    | some s =>
      have hin : inB j l m u := ⟨s, hs, by simpa [hs] using hu⟩
      exact ⟨m, h.mem hin, hpm, hin⟩
  · rintro ⟨m, -, hpm, s, hs, hu⟩
    exact ⟨m, ⟨h.keys j hs, hpm⟩, by simp [hs, hu]⟩

theorem findUpdated_updates {l : Log} (h : LogInv l) (p u : Nat) :
    u ∈ (findUpdated l p).1 ↔ ∃ m, alookup u l.last = some m ∧ p ≤ m ∧ inU l m u :=
  mem_findUpdated h .upd p u

theorem findUpdated_expunges {l : Log} (h : LogInv l) (p u : Nat) :
    u ∈ (findUpdated l p).2 ↔ ∃ m, alookup u l.last = some m ∧ p ≤ m ∧ inE l m u :=
  mem_findUpdated h .exp p u

end Pymap.ModSeq
