import PymapModel.TRWLock
import PymapProofs.Lemmas.Count
import PymapProofs.Lemmas.Run
/-! The steps of the threading read-write lock as a transition table (`Move`, `step_move`), and its invariant `Inv` (what
`Lemmas/RWInv.lean` is for the asyncio one).  The invariant counts who is where:
the counter is the number of threads between their increment and their decrement; `R` is held exactly by the one thread in a
section of code bracketed by `with self._read_lock`; `W` is held by the writer inside, or by the reader side as soon as the first
reader has obtained it and until the last one gives it back; a reader waits for `W` only while the counter is 0. -/
namespace Pymap.TRW
open Pymap.RWLock (ind)

/-- The transition table of `step` (task before, new `R`, `W`, counter, task after).  A row is named after the pc it leaves, except that `idle` has `startR` and `startW`, and `rHoldR` has `first` and `join`, the two
outcomes of its test of the counter. -/
inductive Move (s : St) : Task → Bool → Bool → Nat → Task → Prop
  | startR {ps} : Move s ⟨.idle, true :: ps⟩ s.r s.w s.counter ⟨.rWantR, true :: ps⟩
  | startW {ps} : Move s ⟨.idle, false :: ps⟩ s.r s.w s.counter ⟨.wWantW, false :: ps⟩
  | rWantR {ps} : s.r = false → Move s ⟨.rWantR, ps⟩ true s.w s.counter ⟨.rHoldR, ps⟩
  | first {ps} : s.counter = 0 → Move s ⟨.rHoldR, ps⟩ s.r s.w s.counter ⟨.rWantW, ps⟩
  | join {ps} : s.counter ≠ 0 → Move s ⟨.rHoldR, ps⟩ s.r s.w s.counter ⟨.rInc, ps⟩
  | rWantW {ps} : s.w = false → Move s ⟨.rWantW, ps⟩ s.r true s.counter ⟨.rInc, ps⟩
  | rInc {ps} : Move s ⟨.rInc, ps⟩ false s.w (s.counter + 1) ⟨.rIn, ps⟩
  | rIn {ps} : Move s ⟨.rIn, ps⟩ s.r s.w s.counter ⟨.xWantR, ps⟩
  | xWantR {ps} : s.r = false → Move s ⟨.xWantR, ps⟩ true s.w s.counter ⟨.xDec, ps⟩
  | xDec {ps} : Move s ⟨.xDec, ps⟩ false (if s.counter - 1 = 0 then false else s.w) (s.counter - 1) ⟨.idle, ps.tail⟩
  | wWantW {ps} : s.w = false → Move s ⟨.wWantW, ps⟩ s.r true s.counter ⟨.wIn, ps⟩
  | wIn {ps} : Move s ⟨.wIn, ps⟩ s.r false s.counter ⟨.idle, ps.tail⟩

inductive Moved (s : St) (i : Nat) : St → Prop
  | mk {t r' w' c' t'} : s.tasks[i]? = some t → Move s t r' w' c' t' →
      Moved s i (setPc { s with r := r', w := w', counter := c' } i t')

theorem step_move {s s' : St} {i : Nat} (h : step s i = some s') : Moved s i s' := by
  unfold Pymap.TRW.step at h
  cases ht : s.tasks[i]? with
  | none => rw [ht] at h; cases h
  | some t =>
    obtain ⟨pc, ps⟩ := t
    rw [ht] at h
    cases pc <;> simp only [Option.ite_none_left_eq_some, Option.some.injEq, Bool.not_eq_true] at h
    · rcases ps with _ | ⟨_ | _, ps⟩ <;> cases h
      · exact .mk ht .startW
      · exact .mk ht .startR
    · exact h.2 ▸ .mk ht (.rWantR h.1)
    · subst h
      by_cases hc : s.counter = 0
      · rw [if_pos hc]; exact .mk ht (.first hc)
      · rw [if_neg hc]; exact .mk ht (.join hc)
    · exact h.2 ▸ .mk ht (.rWantW h.1)
    · exact h ▸ .mk ht .rInc
    · exact h ▸ .mk ht .rIn
    · exact h.2 ▸ .mk ht (.xWantR h.1)
    · exact h ▸ .mk ht .xDec
    · exact h.2 ▸ .mk ht (.wWantW h.1)
    · exact h ▸ .mk ht .wIn

/-! Who is where, by pc: `inIn` between the increment and the decrement of the counter (the reader is inside, or leaving); `holdR`
inside a `with self._read_lock` block; `isW` the writer inside; `isInc` about to increment, `W` already obtained for the
readers or found held by them; `isWW` the first reader, waiting for `W` with `R` in hand. -/
def inIn (t : Task) : Bool := t.pc == .rIn || t.pc == .xWantR || t.pc == .xDec
def holdR (t : Task) : Bool := t.pc == .rHoldR || t.pc == .rWantW || t.pc == .rInc || t.pc == .xDec
def isW (t : Task) : Bool := t.pc == .wIn
def isInc (t : Task) : Bool := t.pc == .rInc
def isWW (t : Task) : Bool := t.pc == .rWantW
def nIn (s : St) : Nat := s.tasks.countP inIn
def nHold (s : St) : Nat := s.tasks.countP holdR
def nW (s : St) : Nat := s.tasks.countP isW
def nInc (s : St) : Nat := s.tasks.countP isInc
def nWW (s : St) : Nat := s.tasks.countP isWW

structure Inv (s : St) : Prop where
  cnt : s.counter = nIn s
  rl  : ind s.r = nHold s
  wl  : ind s.w = nW s + min 1 (s.counter + nInc s)
  ww  : 1 ≤ nWW s → s.counter = 0

theorem isRun : IsRun step run := ⟨fun _ => rfl, fun _ _ _ => rfl⟩

theorem Inv.init (progs : List (List Bool)) : Inv (St.init progs) := by
  have z : ∀ p : Task → Bool, (∀ pr, p ⟨.idle, pr⟩ = false) → (St.init progs).tasks.countP p = 0 :=
    fun p hp => countP_map_eq_zero hp progs
  refine ⟨(z inIn fun _ => rfl).symm, (z holdR fun _ => rfl).symm, ?_, fun _ => rfl⟩
  show 0 = (St.init progs).tasks.countP isW + min 1 (0 + (St.init progs).tasks.countP isInc)
  rw [z isW fun _ => rfl, z isInc fun _ => rfl]; rfl

/-- Thread `i` moves from `t` to `t'`, the mutexes and the counter take new values: the invariant afterwards, in terms of the
counts before.  Where `t` and `t'` are given by their `pc`, every `shift` evaluates: a clause that the move does not touch is
the old one (`h.cnt` …), and the others can be restated with `show`. -/
theorem Inv.upd {s : St} {i : Nat} {t t' : Task} (ht : s.tasks[i]? = some t) {r' w' : Bool} {c' : Nat}
    (cnt : c' = shift (nIn s) (inIn t) (inIn t'))
    (rl : ind r' = shift (nHold s) (holdR t) (holdR t'))
    (wl : ind w' = shift (nW s) (isW t) (isW t') + min 1 (c' + shift (nInc s) (isInc t) (isInc t')))
    (ww : 1 ≤ shift (nWW s) (isWW t) (isWW t') → c' = 0) :
    Inv (setPc { s with r := r', w := w', counter := c' } i t') := by
  refine ⟨cnt.trans (countP_set_shift inIn ht t').symm, rl.trans (countP_set_shift holdR ht t').symm, ?_, ?_⟩
  · show ind w' = (s.tasks.set i t').countP isW + min 1 (c' + (s.tasks.set i t').countP isInc)
    rw [countP_set_shift isW ht, countP_set_shift isInc ht]; exact wl
  · show 1 ≤ (s.tasks.set i t').countP isWW → c' = 0
    rw [countP_set_shift isWW ht]; exact ww

/-- `R` has one holder: of the threads at a set `p` of points inside the bracket, none is there while a thread holds `R`
at a point outside `p` -/
theorem Inv.holder {s : St} (h : Inv s) {i : Nat} {t : Task} (ht : s.tasks[i]? = some t) (hh : holdR t = true)
    (p : Task → Bool) (hp : ∀ a, p a = true → holdR a = true) (hpt : p t = false) : s.tasks.countP p = 0 := by
  have hle : nHold s ≤ 1 := h.rl ▸ ind_le_one s.r
  exact Nat.lt_one_iff.1 (Nat.lt_of_lt_of_le (countP_lt_countP hp ht hh hpt) hle)

theorem ind_false : ind false = 0 := rfl
theorem ind_true : ind true = 1 := rfl

theorem Inv.step {s s' : St} (h : Inv s) (i : Nat) (hs : step s i = some s') : Inv s' := by
  obtain ⟨ht, hm⟩ := step_move hs
  cases hm with
  | startR | startW | rIn => exact Inv.upd ht h.cnt h.rl h.wl h.ww
  | rWantR hr | xWantR hr =>
    have := h.rl; rw [hr, ind_false] at this
    refine Inv.upd ht h.cnt ?_ h.wl h.ww
    show 1 = nHold s + 1; rw [← this]
  | first hc => exact Inv.upd ht h.cnt h.rl h.wl fun _ => hc
  | join hc =>
    refine Inv.upd ht h.cnt h.rl ?_ h.ww
    have := h.wl
    show ind s.w = nW s + min 1 (s.counter + (nInc s + 1))
    rw [Nat.min_eq_left (Nat.le_add_right_of_le (Nat.pos_of_ne_zero hc))] at this ⊢; exact this
  | rWantW hw =>
    -- `W` was free, so there is no writer inside; the reader side takes it, with this thread at `rInc`
    have := h.wl; rw [hw, ind_false] at this
    have hnw : nW s = 0 := Nat.eq_zero_of_add_eq_zero_right this.symm
    refine Inv.upd ht h.cnt h.rl ?_ fun hh => h.ww (Nat.le_trans hh (Nat.sub_le _ 1))
    show 1 = nW s + min 1 (s.counter + (nInc s + 1))
    rw [hnw, Nat.zero_add]; exact (Nat.min_eq_left (Nat.le_add_left 1 _)).symm
  | rInc =>
    -- it holds `R`, so nobody is waiting for `W`
    have hinc : 1 ≤ nInc s := countP_pos_of_getElem isInc s.tasks i _ ht rfl
    have hww : nWW s = 0 := h.holder ht rfl isWW (fun a ha => by rw [holdR, eq_of_beq ha]; rfl) rfl
    refine Inv.upd ht (congrArg (· + 1) h.cnt) ?_ ?_ ?_
    · show 0 = nHold s - 1; exact (Nat.sub_eq_zero_of_le (h.rl ▸ ind_le_one s.r)).symm
    · show ind s.w = nW s + min 1 (s.counter + 1 + (nInc s - 1))
      rw [Nat.add_assoc, Nat.add_sub_cancel' hinc]; exact h.wl
    · intro (hh : 1 ≤ nWW s); rw [hww] at hh; cases hh
  | xDec =>
    -- it holds `R`, so nobody is at `rInc`; it gives `W` back if it is the last reader
    have hc : 1 ≤ s.counter := h.cnt ▸ countP_pos_of_getElem inIn s.tasks i _ ht rfl
    have hinc : nInc s = 0 := h.holder ht rfl isInc (fun a ha => by rw [holdR, eq_of_beq ha]; rfl) rfl
    refine Inv.upd ht (congrArg (· - 1) h.cnt) ?_ ?_ fun hh => by rw [h.ww hh]
    · show 0 = nHold s - 1; exact (Nat.sub_eq_zero_of_le (h.rl ▸ ind_le_one s.r)).symm
    · have hwl := h.wl
      rw [Nat.min_eq_left (Nat.le_add_right_of_le hc)] at hwl
      show ind (if s.counter - 1 = 0 then false else s.w) = nW s + min 1 (s.counter - 1 + nInc s)
      by_cases hc' : s.counter - 1 = 0
      · -- the last reader: `ind s.w = nW s + 1` leaves no writer inside
        have hnw : nW s = 0 := Nat.lt_one_iff.1 (show nW s + 1 ≤ 1 from hwl ▸ ind_le_one s.w)
        rw [if_pos hc', hc', hinc, hnw]; rfl
      · rw [if_neg hc', Nat.min_eq_left (Nat.le_add_right_of_le (Nat.pos_of_ne_zero hc'))]; exact hwl
  | wWantW hw =>
    have := h.wl; rw [hw, ind_false] at this
    refine Inv.upd ht h.cnt h.rl ?_ h.ww
    show 1 = nW s + 1 + min 1 (s.counter + nInc s); rw [Nat.add_right_comm, ← this]
  | wIn =>
    -- the writer inside is all that `W` stands for: `nW s + min … ≤ 1` with `1 ≤ nW s`
    have hle : nW s + min 1 (s.counter + nInc s) ≤ 1 := h.wl ▸ ind_le_one s.w
    have hw : 1 ≤ nW s := countP_pos_of_getElem isW s.tasks i _ ht rfl
    refine Inv.upd ht h.cnt h.rl ?_ h.ww
    show 0 = nW s - 1 + min 1 (s.counter + nInc s)
    rw [← Nat.sub_add_comm hw]; exact (Nat.sub_eq_zero_of_le hle).symm

theorem Inv.run {s s' : St} (h : Inv s) (is : List Nat) (hs : Pymap.TRW.run s is = some s') : Inv s' :=
  isRun.inv (fun _ i _ h hs => h.step i hs) hs h

/-- in a state with the invariant, not only a reachable one: while a writer is inside nobody else is -/
theorem Inv.exclusion {s : St} (h : Inv s) {i j : Nat} {ti tj : Task} (hi : s.tasks[i]? = some ti) (hj : s.tasks[j]? = some tj)
    (hij : i ≠ j) (hw : ti.pc = .wIn) : tj.pc ≠ .wIn ∧ tj.pc ≠ .rIn := by
  have hwi : isW ti = true := beq_of_eq hw
  have hle : nW s + min 1 (s.counter + nInc s) ≤ 1 := h.wl ▸ ind_le_one s.w
  refine ⟨fun hc => ?_, fun hc => ?_⟩
  · have : 2 ≤ nW s := countP_two isW s.tasks i j ti tj hij hi hj hwi (beq_of_eq hc)
    exact absurd (Nat.le_trans this (Nat.le_trans (Nat.le_add_right _ _) hle)) (by decide)
  · have hin : 1 ≤ s.counter := h.cnt ▸ countP_pos_of_getElem inIn s.tasks j tj hj (by rw [inIn, hc]; rfl)
    have : 1 ≤ nW s := countP_pos_of_getElem isW s.tasks i ti hi hwi
    rw [Nat.min_eq_left (Nat.le_add_right_of_le hin)] at hle
    exact Nat.not_lt_of_le this hle

end Pymap.TRW
