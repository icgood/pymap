/-!
# Positional arithmetic

A number is packed as `x * k + y` with `y < k` and split again as `/ k`, `% k`.
The base64 and two-digit proofs pass these bounds by hand: a decision procedure pays for every `/` and `%` it meets.
-/
namespace Pymap

theorem pack_div {x y k : Nat} (h : y < k) : (x * k + y) / k = x := by
  rw [Nat.add_comm, Nat.add_mul_div_right _ _ (Nat.zero_lt_of_lt h), Nat.div_eq_of_lt h, Nat.zero_add]

theorem pack_lt {x y k m : Nat} (hx : x < m) (hy : y < k) : x * k + y < m * k :=
  Nat.lt_of_lt_of_le (Nat.add_lt_add_left hy _) (Nat.succ_mul x k ▸ Nat.mul_le_mul_right k hx)

end Pymap
