import PymapProofs.Lemmas.Fork
/-! Why merging the fork's FETCH responses into the command's own is safe when no EXPUNGE lies
between them (defect D29 and its repair) -/
namespace Pymap.Sync

/-- if nothing left the view, every old message keeps its sequence number -/
theorem seq_stable_without_expunge (b a : View) (hb : Coherent b) (ha : Coherent a)
    (hnew : ∀ u ∈ a.uids, u ∉ b.uids → ∀ w ∈ a.uids, w ∈ b.uids → w < u)
    (hsub : ∀ u ∈ b.uids, u ∈ a.uids) :
    ∀ u ∈ b.uids, lookup u a.seqs = lookup u b.seqs := by
  -- the old list is a prefix of the new one
  have hsplit := sorted_eq_retained_append_new b a hb ha hnew
  obtain ⟨-, hmb, -, hsb⟩ := hb
  obtain ⟨-, -, -, hsa⟩ := ha
  rw [List.filter_eq_self.2 fun u hu => List.contains_iff_mem.2 (hsub u ((hmb u).2 hu))] at hsplit
  intro u hu
  obtain ⟨i, hi, rfl⟩ := List.mem_iff_getElem.1 ((hmb _).1 hu)
  have hia : i < a.sorted.length := by
    rw [hsplit, List.length_append]
    exact Nat.lt_add_right _ hi
  have hget : a.sorted[i] = b.sorted[i] := (List.getElem_of_eq hsplit hia).trans (List.getElem_append_left hi)
  rw [hsb i hi, ← hget, hsa i hia]

/-- consequently a FETCH of the fork that carries the sequence number of a FETCH the command already
produced denotes the *same message* — provided the fork removed nothing.  If it did remove something
its FETCHes are in the new numbering and must stay *behind* the EXPUNGEs (the repair: the merge table of
`CommandResponse.add_untagged` is cleared whenever an EXPUNGE is appended). -/
theorem merge_same_message (b a : View) (hb : Coherent b) (ha : Coherent a)
    (hnew : ∀ u ∈ a.uids, u ∉ b.uids → ∀ w ∈ a.uids, w ∈ b.uids → w < u)
    (hsub : ∀ u ∈ b.uids, u ∈ a.uids)
    (u u' s : Nat) (hu : u ∈ b.uids) (hu' : u' ∈ a.uids)
    (hs : lookup u b.seqs = some s) (hs' : lookup u' a.seqs = some s) : u = u' := by
  have h1 := seq_stable_without_expunge b a hb ha hnew hsub u hu
  rw [hs] at h1
  -- both u and u' sit at position s-1 of a.sorted
  obtain ⟨i, hi, rfl, hsi⟩ := ha.seq_of_mem (hsub u hu)
  obtain ⟨j, hj, rfl, hsj⟩ := ha.seq_of_mem hu'
  rw [hsi] at h1
  rw [hsj] at hs'
  have : i = j := Nat.succ.inj (Option.some.inj (h1.trans hs'.symm))
  subst this
  rfl

#print axioms merge_same_message
end Pymap.Sync
