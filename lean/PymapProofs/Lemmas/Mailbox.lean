import PymapModel.Mailbox
import PymapProofs.Lemmas.ModSeq
import PymapProofs.Lemmas.Sync
import PymapProofs.Lemmas.Keys
/-! Invariant of the dict `MailboxData` model; `Logged`: what `push`, `updateFlags` and `delete` (the
primitives `System.step` uses; `pop` and `claimRecent` are not among them) have in common -/
namespace Pymap.Mailbox
open Pymap.ModSeq Pymap.Sync

/-- `kind`: the last entry the log has for `u` is an update iff `u` is still in the store (else an expunge); `logged`: every stored
uid has an entry; `lastLe`: no uid in the log is above the highest ever assigned -/
structure MBoxInv (b : MBox) : Prop where
  sorted : b.uids.Pairwise (· < ·)
  le     : ∀ u ∈ b.uids, u ≤ b.maxUid
  log    : LogInv b.log
  kind   : ∀ u m, alookup u b.log.last = some m → (inU b.log m u ↔ u ∈ b.uids)
  logged : ∀ u ∈ b.uids, ∃ m, alookup u b.log.last = some m
  lastLe : ∀ u m, alookup u b.log.last = some m → u ≤ b.maxUid

theorem MBoxInv.new : MBoxInv MBox.new where
  sorted := .nil
  le := nofun
  log := LogInv.empty
  kind := nofun
  logged := nofun
  lastLe := nofun

theorem mem_uids {b : MBox} {u : Nat} : u ∈ b.uids ↔ ∃ m ∈ b.msgs, m.uid = u := List.mem_map

theorem find_some {b : MBox} {u : Nat} {m : Msg} (h : b.find u = some m) : m ∈ b.msgs ∧ m.uid = u :=
  ⟨List.mem_of_find?_eq_some h, by simpa using List.find?_some h⟩

theorem find_isSome {b : MBox} {u : Nat} (h : u ∈ b.uids) : ∃ m, b.find u = some m := by
  obtain ⟨m, hm, rfl⟩ := mem_uids.1 h
  exact Option.isSome_iff_exists.1 (List.find?_isSome.2 ⟨m, hm, by simp⟩)

theorem find_none {b : MBox} {u : Nat} (h : u ∉ b.uids) : b.find u = none :=
  List.find?_eq_none.2 fun m hm e => h (mem_uids.2 ⟨m, hm, by simpa using e⟩)

theorem MBoxInv.nodup {b : MBox} (h : MBoxInv b) : b.uids.Nodup := Sync.pairwise_lt_nodup h.sorted

theorem find_of_mem {b : MBox} (hnd : b.uids.Nodup) {m : Msg} (hm : m ∈ b.msgs) : b.find m.uid = some m := by
  obtain ⟨m', h'⟩ := find_isSome (mem_uids.2 ⟨m, hm, rfl⟩)
  rw [h', eq_of_nodup_map hnd (find_some h').1 hm (find_some h').2]

theorem find_eq_some_iff {b : MBox} (hnd : b.uids.Nodup) {u : Nat} {m : Msg} :
    b.find u = some m ↔ m ∈ b.msgs ∧ m.uid = u :=
  ⟨find_some, fun ⟨hm, hu⟩ => hu ▸ find_of_mem hnd hm⟩

/-- `b'` arises from `b` by one primitive that records the uids `us` in the change log with kind `k`:
messages with other uids are untouched, those of `us` exist afterwards iff `k = .upd`, and a uid that is
new to the store is above every uid ever assigned -/
structure Logged (b b' : MBox) (us : List Nat) (k : Kind) : Prop where
  log     : b'.log = set b.log us k
  nodup   : us.Nodup
  maxUid  : b.maxUid ≤ b'.maxUid
  sorted  : b'.uids.Pairwise (· < ·)
  grow    : ∀ u ∈ b'.uids, u ∈ b.uids ∨ b.maxUid < u
  other   : ∀ m : Msg, m.uid ∉ us → (m ∈ b'.msgs ↔ m ∈ b.msgs)
  touched : ∀ u ∈ us, (u ∈ b'.uids ↔ k = .upd)

namespace Logged
variable {b b' : MBox} {us : List Nat} {k : Kind}

theorem mem_uids (hl : Logged b b' us k) {u : Nat} (hu : u ∉ us) : u ∈ b'.uids ↔ u ∈ b.uids := by
  simp only [Mailbox.mem_uids]
  exact exists_congr fun m => and_congr_left fun e => hl.other m (e ▸ hu)

theorem find (hl : Logged b b' us k) (hb : MBoxInv b) {u : Nat} (hu : u ∉ us) : b'.find u = b.find u :=
  Option.ext fun m => by
    rw [find_eq_some_iff (Sync.pairwise_lt_nodup hl.sorted), find_eq_some_iff hb.nodup]
    exact and_congr_left fun e => hl.other m (e ▸ hu)

theorem last (hl : Logged b b' us k) (u : Nat) :
    alookup u b'.log.last = if u ∈ us then some (b.log.highest + 1) else alookup u b.log.last := by
  rw [hl.log, set_last]

theorem highest (hl : Logged b b' us k) : b'.log.highest = b.log.highest + 1 := by
  rw [hl.log, set_highest]

theorem inv (hl : Logged b b' us k) (hb : MBoxInv b) (hus : ∀ u ∈ us, u ≤ b'.maxUid) : MBoxInv b' where
  sorted := hl.sorted
  le := fun u hu => by
    by_cases hu' : u ∈ us
    · exact hus u hu'
    · exact Nat.le_trans (hb.le u ((hl.mem_uids hu').1 hu)) hl.maxUid
  log := hl.log ▸ set_inv hb.log us hl.nodup k
  kind := fun u m hm => by
    rw [hl.last] at hm
    rw [hl.log, inU_eq, inB_set hb.log hl.nodup]
    split at hm
    · rename_i hus
      rw [if_pos hus, hl.touched u hus]
      simp [Option.some.inj hm]
    · rename_i hus
      rw [if_neg hus, hl.mem_uids hus]
      exact hb.kind u m hm
  logged := fun u hu => by
    rw [hl.last]
    split
    · exact ⟨_, rfl⟩
    · rename_i hus; exact hb.logged u ((hl.mem_uids hus).1 hu)
  lastLe := fun u m hm => by
    rw [hl.last] at hm
    split at hm
    · rename_i hu'; exact hus u hu'
    · exact Nat.le_trans (hb.lastLe u m hm) hl.maxUid

end Logged

theorem push_uids (b : MBox) (flags : List Nat) (recent : Bool) (cid date : Nat) :
    (push b flags recent cid date).1.uids = b.uids ++ [b.maxUid + 1] := by
  simp [push, MBox.uids]

theorem push_logged {b : MBox} (h : MBoxInv b) (flags : List Nat) (recent : Bool) (cid date : Nat) :
    Logged b (push b flags recent cid date).1 [b.maxUid + 1] .upd where
  log := rfl
  nodup := by simp
  maxUid := Nat.le_succ _
  sorted := by
    rw [push_uids, List.pairwise_append]
    exact ⟨h.sorted, List.pairwise_singleton _ _,
      fun a ha c hc => List.mem_singleton.1 hc ▸ Nat.lt_succ_of_le (h.le a ha)⟩
  grow := fun u hu => by
    rw [push_uids, List.mem_append, List.mem_singleton] at hu
    exact hu.imp id fun (e : u = _) => e ▸ Nat.lt_succ_self _
  other := fun m hm => by
    show m ∈ b.msgs ++ [_] ↔ _
    rw [List.mem_append, List.mem_singleton]
    exact or_iff_left fun e => hm (by simp [e])
  touched := fun u hu => by simp [push_uids, List.mem_singleton.1 hu]

theorem updateFlags_uids (b : MBox) (u : Nat) (f : List Nat → List Nat) :
    (updateFlags b u f).uids = b.uids := by
  unfold updateFlags MBox.uids; split
  · rw [List.map_map]; exact List.map_congr_left fun m _ => by dsimp only [Function.comp]; split <;> rfl
  · rfl

theorem updateFlags_maxUid (b : MBox) (u : Nat) (f : List Nat → List Nat) :
    (updateFlags b u f).maxUid = b.maxUid := by
  unfold updateFlags; split <;> rfl

/-- `update` on a message that is gone does nothing (repaired behaviour, D2) -/
theorem updateFlags_of_not_mem {b : MBox} {u : Nat} (hu : u ∉ b.uids) (f : List Nat → List Nat) :
    updateFlags b u f = b := if_neg hu

theorem updateFlags_logged {b : MBox} (h : MBoxInv b) {u : Nat} (hu : u ∈ b.uids) (f : List Nat → List Nat) :
    Logged b (updateFlags b u f) [u] .upd where
  log := by rw [updateFlags, if_pos hu]; rfl
  nodup := by simp
  maxUid := Nat.le_of_eq (updateFlags_maxUid b u f).symm
  sorted := updateFlags_uids b u f ▸ h.sorted
  grow := fun _ hx => .inl (updateFlags_uids b u f ▸ hx)
  other := fun m hm => by
    rw [List.mem_singleton] at hm
    simp only [updateFlags, hu, if_true, List.mem_map]
    constructor
    · rintro ⟨m0, h0, rfl⟩
      by_cases e : m0.uid = u
      · rw [if_pos e] at hm; exact absurd e hm
      · rw [if_neg e]; exact h0
    · exact fun h0 => ⟨m, h0, if_neg hm⟩
  touched := fun x hx => by simp [updateFlags_uids, List.mem_singleton.1 hx, hu]

theorem delete_uids (b : MBox) (us : List Nat) :
    (delete b us).uids = b.uids.filter (fun u => !(us.contains u)) := by
  simp [delete, MBox.uids, List.filter_map, Function.comp_def]

theorem delete_logged {b : MBox} (h : MBoxInv b) {us : List Nat} (hnd : us.Nodup) :
    Logged b (delete b us) us .exp where
  log := rfl
  nodup := hnd
  maxUid := Nat.le_refl _
  sorted := delete_uids b us ▸ h.sorted.filter _
  grow := fun u hu => .inl (List.mem_filter.1 (delete_uids b us ▸ hu)).1
  other := fun m hm => by simp [delete, hm]
  touched := fun u hu => by simp [delete_uids, hu]

theorem push_inv {b : MBox} (h : MBoxInv b) (flags : List Nat) (recent : Bool) (cid date : Nat) :
    MBoxInv (push b flags recent cid date).1 :=
  (push_logged h ..).inv h (by simp [push])

theorem updateFlags_inv {b : MBox} (h : MBoxInv b) (u : Nat) (f : List Nat → List Nat) :
    MBoxInv (updateFlags b u f) := by
  by_cases hu : u ∈ b.uids
  · refine (updateFlags_logged h hu f).inv h fun x hx => ?_
    rw [updateFlags_maxUid, List.mem_singleton.1 hx]; exact h.le u hu
  · rw [updateFlags_of_not_mem hu]; exact h

theorem delete_inv {b : MBox} (h : MBoxInv b) (us : List Nat) (hnd : us.Nodup)
    (hus : ∀ u ∈ us, u ≤ b.maxUid) : MBoxInv (delete b us) :=
  (delete_logged h hnd).inv h hus

end Pymap.Mailbox
