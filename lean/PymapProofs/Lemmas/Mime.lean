import PymapModel.Mime
/-! The line index of a message tiles it (`Chain`), so a slice from the start of one line to the `next` of another is what lies between (behind C03) -/
namespace Pymap.Mime

/-- the lines tile `[s, e)`: first starts at `s`, each `next` is the following `start`, last `next` is `e` -/
def Chain : List Line → Nat → Nat → Prop
  | [], s, e => s = e
  | l :: ls, s, e => l.1 = s ∧ l.1 ≤ l.2.2 ∧ Chain ls l.2.2 e

theorem Chain.le {ls : List Line} {s e : Nat} (h : Chain ls s e) : s ≤ e := by
  induction ls generalizing s with
  | nil => exact Nat.le_of_eq h
  | cons _ _ ih => exact h.1 ▸ Nat.le_trans h.2.1 (ih h.2.2)

theorem Chain.split {a b : List Line} {s e : Nat} (h : Chain (a ++ b) s e) : ∃ m, Chain a s m ∧ Chain b m e := by
  induction a generalizing s with
  | nil => exact ⟨s, rfl, h⟩
  | cons _ _ ih =>
    have ⟨m, hm1, hm2⟩ := ih h.2.2
    exact ⟨m, ⟨h.1, h.2.1, hm1⟩, hm2⟩

theorem Chain.getLast {ls : List Line} (l : Line) {s e : Nat} (h : Chain (l :: ls) s e) :
    ((l :: ls).getLast (List.cons_ne_nil _ _)).2.2 = e := by
  induction ls generalizing l s with
  | nil => exact h.2.2
  | cons l' _ ih => exact ih l' h.2.2

theorem findLinesAux_chain (bs : List Nat) (pos start : Nat) (cr : Bool) (h : start ≤ pos) :
    Chain (findLinesAux pos start cr bs) start (pos + bs.length) := by
  induction bs generalizing pos start cr with
  | nil => exact ⟨rfl, h, rfl⟩
  | cons b bs ih =>
    rw [findLinesAux, List.length_cons, ← Nat.add_assoc, Nat.add_right_comm]
    split
    · exact ⟨rfl, Nat.le_succ_of_le h, ih _ _ false (Nat.le_refl _)⟩
    · exact ih _ start _ (Nat.le_succ_of_le h)

theorem findLines_chain (data : List Nat) : Chain (findLines data) 0 data.length :=
  Nat.zero_add data.length ▸ findLinesAux_chain data 0 0 false (Nat.le_refl _)

theorem findLinesAux_ne_nil (bs : List Nat) (pos start : Nat) (cr : Bool) : findLinesAux pos start cr bs ≠ [] := by
  induction bs generalizing pos start cr with
  | nil => simp [findLinesAux]
  | cons b bs ih =>
    rw [findLinesAux]; split
    · exact List.cons_ne_nil _ _
    · exact ih _ _ _

theorem splitLines_append (data : List Nat) (ls : List Line) :
    (splitLines data ls).1 ++ (splitLines data ls).2 = ls := by
  induction ls with
  | nil => rfl
  | cons l ls ih =>
    simp only [splitLines]
    split
    · rfl
    · cases h : (splitLines data ls).1 with
      | nil => simp
      | cons a as => simp only []; rw [h] at ih; simp [ih]

theorem getRaw_chain (data : List Nat) : ∀ {ls : List Line} {s e : Nat}, Chain ls s e → getRaw data [ls] = slice data s e
  | [], s, _, h => by rw [← show s = _ from h]; simp [getRaw, slice]
  | l :: ls, _, _, h => by
    simp only [getRaw, List.flatten_cons, List.flatten_nil, List.append_nil]
    rw [h.1, Chain.getLast l h]

theorem getRaw_two (data : List Nat) (a b : List Line) : getRaw data [a, b] = getRaw data [a ++ b] := by
  simp [getRaw]

theorem slice_full (data : List Nat) : slice data 0 data.length = data := by simp [slice]

theorem slice_append (data : List Nat) {s m e : Nat} (h1 : s ≤ m) (h2 : m ≤ e) :
    slice data s m ++ slice data m e = slice data s e := by
  obtain ⟨a, rfl⟩ := Nat.exists_eq_add_of_le h1
  obtain ⟨b, rfl⟩ := Nat.exists_eq_add_of_le h2
  rw [slice, slice, slice, Nat.add_sub_cancel_left, Nat.add_sub_cancel_left, Nat.add_assoc, Nat.add_sub_cancel_left,
    List.take_add, List.drop_drop]

end Pymap.Mime
