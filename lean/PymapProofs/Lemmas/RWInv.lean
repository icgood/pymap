import PymapProofs.Lemmas.ALock
import PymapProofs.Lemmas.Count
import PymapProofs.Lemmas.Run
/-! The steps of the repaired read-write lock as a transition table (`Move`, `step_move`), and the exclusion invariant `Inv`,
kept by every row because the counter and the `locked` bit of `W` move with the number of tasks inside (`Inv.upd`) -/
namespace Pymap.RWLock

def isR (t : Task) : Bool := t.pc == .rIn
def isW (t : Task) : Bool := t.pc == .wIn
def nR (s : St) : Nat := s.tasks.countP isR
def nW (s : St) : Nat := s.tasks.countP isW

theorem nR_setPc (s : St) (i : Nat) (t t' : Task) (h : s.tasks[i]? = some t) :
    nR (setPc s i t') + ind (isR t) = nR s + ind (isR t') := countP_set isR _ _ _ _ h
theorem nW_setPc (s : St) (i : Nat) (t t' : Task) (h : s.tasks[i]? = some t) :
    nW (setPc s i t') + ind (isW t) = nW s + ind (isW t') := countP_set isW _ _ _ _ h

theorem nR_with (s : St) (r' w' : ALock) (c' : Nat) :
    nR ({ s with r := r', w := w', counter := c' } : St) = nR s := rfl
theorem nW_with (s : St) (r' w' : ALock) (c' : Nat) :
    nW ({ s with r := r', w := w', counter := c' } : St) = nW s := rfl

/-- What `afterR` does once task `i` has obtained `R`, leaving it as `r1`.  In `first` the model sets the counter to `1`; it is
written `s.counter + 1` so that in every row the counter changes exactly as `isR` of the task does. -/
inductive After (s : St) (i : Nat) (r1 : ALock) : ALock → ALock → Nat → PC → Prop
  | first : s.counter = 0 → s.w.canFast = true →
      After s i r1 r1.release { s.w with locked := true } (s.counter + 1) .rIn
  | queue : s.counter = 0 → s.w.canFast = false → After s i r1 r1 (s.w.enqueue i) s.counter .rWaitW
  | join : s.counter ≠ 0 → After s i r1 r1.release s.w (s.counter + 1) .rIn

/-- The transition table of `step`, run or cancel: task `i` goes from `t` to `t'` while `R`, `W` and the counter become
`r'`, `w'`, `c'`. -/
inductive Move (s : St) (i : Nat) : Task → ALock → ALock → Nat → Task → Prop
  | startR {ps r' w' c' p} : s.r.canFast = true → After s i { s.r with locked := true } r' w' c' p →
      Move s i ⟨.idle, true :: ps⟩ r' w' c' ⟨p, true :: ps⟩
  | waitR {ps} : s.r.canFast = false → Move s i ⟨.idle, true :: ps⟩ (s.r.enqueue i) s.w s.counter ⟨.rWaitR, true :: ps⟩
  | startW {ps} : s.w.canFast = true →
      Move s i ⟨.idle, false :: ps⟩ s.r { s.w with locked := true } s.counter ⟨.wIn, false :: ps⟩
  | waitW {ps} : s.w.canFast = false → Move s i ⟨.idle, false :: ps⟩ s.r (s.w.enqueue i) s.counter ⟨.wWaitW, false :: ps⟩
  | wokenR {ps r' w' c' p} : s.r.isWoken i = true → After s i (s.r.take i) r' w' c' p → Move s i ⟨.rWaitR, ps⟩ r' w' c' ⟨p, ps⟩
  | wokenRW {ps} : s.w.isWoken i = true → Move s i ⟨.rWaitW, ps⟩ s.r.release (s.w.take i) (s.counter + 1) ⟨.rIn, ps⟩
  | wokenW {ps} : s.w.isWoken i = true → Move s i ⟨.wWaitW, ps⟩ s.r (s.w.take i) s.counter ⟨.wIn, ps⟩
  | exitR {ps} : Move s i ⟨.rIn, ps⟩ s.r (exitRead s).w (s.counter - 1) ⟨.idle, ps.tail⟩
  | exitW {ps} : Move s i ⟨.wIn, ps⟩ s.r s.w.release s.counter ⟨.idle, ps.tail⟩
  | unwindR {ps} : Move s i ⟨.cR, ps⟩ (s.r.unwind i) s.w s.counter ⟨.dead, ps⟩
  | unwindRW {ps} : Move s i ⟨.cRW, ps⟩ s.r.release (s.w.unwind i) s.counter ⟨.dead, ps⟩
  | unwindW {ps} : Move s i ⟨.cW, ps⟩ s.r (s.w.unwind i) s.counter ⟨.dead, ps⟩
  | cancelR {ps} : Move s i ⟨.rWaitR, ps⟩ (s.r.markCancel i) s.w s.counter ⟨.cR, ps⟩
  | cancelRW {ps} : Move s i ⟨.rWaitW, ps⟩ s.r (s.w.markCancel i) s.counter ⟨.cRW, ps⟩
  | cancelW {ps} : Move s i ⟨.wWaitW, ps⟩ s.r (s.w.markCancel i) s.counter ⟨.cW, ps⟩
  | killR {ps} : Move s i ⟨.rIn, ps⟩ s.r (exitRead s).w (s.counter - 1) ⟨.dead, ps⟩
  | killW {ps} : Move s i ⟨.wIn, ps⟩ s.r s.w.release s.counter ⟨.dead, ps⟩

theorem afterR_move (s : St) (i : Nat) (r1 : ALock) (t : Task) : ∃ r' w' c' p, After s i r1 r' w' c' p ∧
    afterR { s with r := r1 } i t = setPc ⟨r', w', c', s.tasks⟩ i ⟨p, t.prog⟩ := by
  unfold afterR
  by_cases hc : s.counter = 0
  · rw [if_pos hc]
    cases hf : s.w.canFast
    · exact ⟨_, _, _, _, .queue hc hf, rfl⟩
    · exact ⟨_, _, _, _, .first hc hf, by rw [hc]; rfl⟩
  · rw [if_neg hc]
    exact ⟨_, _, _, _, .join hc, rfl⟩

inductive Moved (s : St) : St → Prop
  | mk {i t r' w' c' t'} : s.tasks[i]? = some t → Move s i t r' w' c' t' → Moved s (setPc ⟨r', w', c', s.tasks⟩ i t')

theorem step_move {s s' : St} {l : Label} (h : step s l = some s') : Moved s s' := by
  cases l with
  | run i =>
    dsimp only [step] at h
    cases ht : s.tasks[i]? with
    | none => rw [ht] at h; cases h
    | some t =>
      obtain ⟨pc, ps⟩ := t
      rw [ht] at h
      cases pc <;> dsimp only at h
      · rcases ps with _ | ⟨_ | _, ps⟩ <;> dsimp only at h
        · cases h
        · cases hf : s.w.canFast <;> rw [hf] at h <;> cases h
          · exact .mk ht (.waitW hf)
          · exact .mk ht (.startW hf)
        · cases hf : s.r.canFast <;> rw [hf] at h <;> cases h
          · exact .mk ht (.waitR hf)
          · obtain ⟨_, _, _, _, ha, e⟩ := afterR_move s i { s.r with locked := true } ⟨.idle, true :: ps⟩
            exact e ▸ .mk ht (.startR hf ha)
      · obtain ⟨hw, rfl⟩ := Option.ite_some_none_eq_some.1 h
        obtain ⟨_, _, _, _, ha, e⟩ := afterR_move s i (s.r.take i) ⟨.rWaitR, ps⟩
        exact e ▸ .mk ht (.wokenR hw ha)
      · obtain ⟨hw, rfl⟩ := Option.ite_some_none_eq_some.1 h
        exact .mk ht (.wokenRW hw)
      · cases h; exact .mk ht .exitR
      · obtain ⟨hw, rfl⟩ := Option.ite_some_none_eq_some.1 h
        exact .mk ht (.wokenW hw)
      · cases h; exact .mk ht .exitW
      · cases h; exact .mk ht .unwindR
      · cases h; exact .mk ht .unwindRW
      · cases h; exact .mk ht .unwindW
      · cases h
  | cancel i =>
    dsimp only [step] at h
    cases ht : s.tasks[i]? with
    | none => rw [ht] at h; cases h
    | some t =>
      obtain ⟨pc, ps⟩ := t
      rw [ht] at h
      cases pc <;> cases h
      · exact .mk ht .cancelR
      · exact .mk ht .cancelRW
      · exact .mk ht .killR
      · exact .mk ht .cancelW
      · exact .mk ht .killW

structure Inv (s : St) : Prop where
  cnt  : s.counter = nR s
  w1   : nW s ≤ 1
  wr   : 1 ≤ nW s → nR s = 0
  wlk  : s.w.locked = true ↔ (1 ≤ nW s ∨ 1 ≤ nR s)
  wl   : LInv s.w

/-- the three facts about `W` in one: `W` is held once by each writer inside and once by the readers inside together -/
theorem Inv.iff_ind {s : St} : Inv s ↔ s.counter = nR s ∧ ind s.w.locked = nW s + min 1 (nR s) ∧ LInv s.w := by
  have b := ind_le_one s.w.locked
  have key : (nW s ≤ 1 ∧ (1 ≤ nW s → nR s = 0) ∧ (1 ≤ ind s.w.locked ↔ 1 ≤ nW s ∨ 1 ≤ nR s)) ↔
      ind s.w.locked = nW s + min 1 (nR s) := by omega
  rw [← key, ind_pos]
  exact ⟨fun ⟨c, w1, wr, wlk, wl⟩ => ⟨c, ⟨w1, wr, wlk⟩, wl⟩, fun ⟨c, ⟨w1, wr, wlk⟩, wl⟩ => ⟨c, w1, wr, wlk, wl⟩⟩

/-- Task `i` goes from `t` to `t'`: the invariant is kept if the counter moves with the readers inside, and the `locked` bit of
`W` with the writers inside plus one for the readers inside together. -/
theorem Inv.upd {s : St} (h : Inv s) {i : Nat} {t t' : Task} (ht : s.tasks[i]? = some t) {r' w' : ALock} {c' : Nat}
    (hl : LInv w') (hc : c' + ind (isR t) = s.counter + ind (isR t'))
    (hw : ind w'.locked + ind (isW t) + min 1 s.counter = ind s.w.locked + ind (isW t') + min 1 c') :
    Inv (setPc ⟨r', w', c', s.tasks⟩ i t') := by
  obtain ⟨c, hk, _⟩ := Inv.iff_ind.1 h
  have e1 : _ = nR s + _ := nR_setPc ⟨r', w', c', s.tasks⟩ i t t' ht
  have e2 : _ = nW s + _ := nW_setPc ⟨r', w', c', s.tasks⟩ i t t' ht
  have e : c' = nR (setPc ⟨r', w', c', s.tasks⟩ i t') := Nat.add_right_cancel (hc.trans (c ▸ e1.symm))
  rw [c, e] at hw
  refine Inv.iff_ind.2 ⟨e, ?_, hl⟩
  show ind w'.locked = _
  omega

theorem Inv.init (progs : List (List Bool)) : Inv (St.init progs) :=
  have hR : nR (St.init progs) = 0 := countP_map_eq_zero (fun _ => rfl) progs
  have hW : nW (St.init progs) = 0 := countP_map_eq_zero (fun _ => rfl) progs
  Inv.iff_ind.2 ⟨hR.symm, by rw [hR, hW]; rfl, LInv.init⟩

theorem Inv.counter_of_free {s : St} (h : Inv s) (hf : s.w.locked = false) : s.counter = 0 :=
  Nat.eq_zero_of_not_pos fun hp => Bool.false_ne_true (hf ▸ h.wlk.2 (.inr (h.cnt ▸ hp)))

theorem Inv.in_write {s : St} (h : Inv s) {i : Nat} {t : Task} (ht : s.tasks[i]? = some t) (hw : isW t = true) :
    s.w.locked = true :=
  h.wlk.2 (.inl (countP_pos_of_getElem isW s.tasks i t ht hw))

theorem Inv.in_read {s : St} (h : Inv s) {i : Nat} {t : Task} (ht : s.tasks[i]? = some t) (hr : isR t = true) :
    1 ≤ s.counter ∧ s.w.locked = true := by
  have : 1 ≤ nR s := countP_pos_of_getElem isR s.tasks i t ht hr
  exact ⟨h.cnt ▸ this, h.wlk.2 (.inr this)⟩

theorem Inv.inside {s : St} (h : Inv s) (hl : s.w.locked = true) :
    ∃ (j : Nat) (t : Task), s.tasks[j]? = some t ∧ (t.pc = .wIn ∨ t.pc = .rIn) := by
  rcases h.wlk.1 hl with hw | hr
  · obtain ⟨j, t, ht, hp⟩ := exists_of_countP isW s.tasks hw
    exact ⟨j, t, ht, .inl (beq_iff_eq.1 hp)⟩
  · obtain ⟨j, t, ht, hp⟩ := exists_of_countP isR s.tasks hr
    exact ⟨j, t, ht, .inr (beq_iff_eq.1 hp)⟩

theorem Inv.after {s : St} (h : Inv s) {i : Nat} {t : Task} (ht : s.tasks[i]? = some t) (hr : isR t = false) (hw : isW t = false)
    {r1 r' w' : ALock} {c' : Nat} {p : PC} (ha : After s i r1 r' w' c' p) (ps : List Bool) :
    Inv (setPc ⟨r', w', c', s.tasks⟩ i ⟨p, ps⟩) := by
  cases ha with
  | first hc hf => exact h.upd ht (h.wl.fast hf) (by rw [hr]; rfl) (by rw [hw, hc, canFast_not_locked hf]; rfl)
  | queue hc hf => exact h.upd ht (h.wl.enqueue i) (by rw [hr]; rfl) (by rw [hw]; rfl)
  | join hc =>
    exact h.upd ht h.wl (by rw [hr]; rfl)
      (by rw [hw, Nat.min_eq_left (Nat.pos_of_ne_zero hc), Nat.min_eq_left (Nat.le_add_left 1 _)]; rfl)

theorem exitRead_w (s : St) : (exitRead s).w = if s.counter - 1 = 0 then s.w.release else s.w := rfl

theorem Inv.move {s : St} (h : Inv s) {i : Nat} {t t' : Task} (ht : s.tasks[i]? = some t) {r' w' : ALock} {c' : Nat}
    (hm : Move s i t r' w' c' t') : Inv (setPc ⟨r', w', c', s.tasks⟩ i t') := by
  -- per row, the two equations of `Inv.upd`: the counter's holds by `rfl`, and `W`'s by `rfl` once the `locked` bit before the
  -- step (and, where readers are involved, the counter) is known
  cases hm with
  | startR _ ha | wokenR _ ha => exact h.after ht rfl rfl ha _
  | waitR | unwindR | cancelR => exact h.upd ht h.wl rfl rfl
  | waitW => exact h.upd ht (h.wl.enqueue i) rfl rfl
  | startW hf => exact h.upd ht (h.wl.fast hf) rfl (by rw [canFast_not_locked hf]; rfl)
  | wokenW hw => exact h.upd ht (h.wl.take hw) rfl (by rw [h.wl.free_of_woken hw]; rfl)
  | wokenRW hw =>
    have hf := h.wl.free_of_woken hw
    exact h.upd ht (h.wl.take hw) rfl (by rw [hf, h.counter_of_free hf]; rfl)
  | unwindRW | unwindW => exact h.upd ht (h.wl.unwind i) rfl (by rw [unwind_locked]; rfl)
  | cancelRW | cancelW => exact h.upd ht (h.wl.markCancel i) rfl rfl
  | exitW | killW => exact h.upd ht h.wl.release.1 rfl (by rw [release_locked, h.in_write ht rfl]; rfl)
  | exitR | killR =>
    -- the last reader out releases `W`
    obtain ⟨hc, hl⟩ := h.in_read ht rfl
    have e : s.counter - 1 + 1 = s.counter + 0 := Nat.sub_add_cancel hc
    rw [exitRead_w]
    split
    · rename_i h0
      exact h.upd ht h.wl.release.1 e (by rw [release_locked, hl, h0, Nat.min_eq_left hc]; rfl)
    · rename_i h0
      exact h.upd ht h.wl e (by rw [Nat.min_eq_left hc, Nat.min_eq_left (Nat.pos_of_ne_zero h0)]; rfl)

/-- **the invariant is preserved by every step, including every cancellation** -/
theorem Inv.step {s s' : St} (h : Inv s) (l : Label) (hs : step s l = some s') : Inv s' := by
  obtain ⟨ht, hm⟩ := step_move hs
  exact h.move ht hm

theorem isRun : IsRun step run := ⟨fun _ => rfl, fun _ _ _ => rfl⟩

theorem Inv.run {s s' : St} (h : Inv s) (ls : List Label) (hs : run s ls = some s') : Inv s' :=
  isRun.inv (fun _ l _ h hs => h.step l hs) hs h

/-- in a state with the invariant, not only a reachable one: while a writer is inside nobody else is -/
theorem Inv.exclusion {s : St} (h : Inv s) {i j : Nat} {ti tj : Task} (hi : s.tasks[i]? = some ti)
    (hj : s.tasks[j]? = some tj) (hij : i ≠ j) (hw : ti.pc = .wIn) : tj.pc ≠ .wIn ∧ tj.pc ≠ .rIn := by
  have hwi : isW ti = true := beq_of_eq hw
  refine ⟨fun hc => ?_, fun hc => ?_⟩
  · exact absurd (Nat.le_trans (countP_two isW s.tasks i j ti tj hij hi hj hwi (beq_of_eq hc)) h.w1) (by decide)
  · have h2 : 1 ≤ nR s := countP_pos_of_getElem isR s.tasks j tj hj (beq_of_eq hc)
    rw [h.wr (countP_pos_of_getElem isW s.tasks i ti hi hwi)] at h2
    cases h2

end Pymap.RWLock
