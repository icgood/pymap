import PymapProofs.Lemmas.RWInv
/-! Progress invariant of the read-write lock model: each mutex's queue holds exactly the tasks whose pc says they wait on it
(`QInv`, the same statement for `R` and for `W`), and while `R` is held some task is waiting for `W` with `R` in hand (`PInv.rl`) -/
namespace Pymap.RWLock

/-- on `R`: `some true` = queued, `some false` = cancelled while queued and not yet unwound -/
def roleR : PC → Option Bool
  | .rWaitR => some true
  | .cR => some false
  | _ => none

def roleW : PC → Option Bool
  | .rWaitW | .wWaitW => some true
  | .cRW | .cW => some false
  | _ => none

/-- parked (or cancelled) between obtaining `R` and obtaining `W` -/
def holdsR : PC → Bool
  | .rWaitW | .cRW => true
  | _ => false

structure QInv (role : PC → Option Bool) (l : ALock) (ts : List Task) : Prop where
  head : headOk l
  mem  : ∀ j b, (j, b) ∈ keys l ↔ ∃ t, ts[j]? = some t ∧ role t.pc = some b

namespace QInv
variable {role : PC → Option Bool} {l l' : ALock} {ts : List Task} {i : Nat} {t t' : Task}

theorem mem_self (h : QInv role l ts) (ht : ts[i]? = some t) (b : Bool) : (i, b) ∈ keys l ↔ role t.pc = some b := by
  rw [h.mem, ht]
  exact ⟨fun ⟨_, e, hr⟩ => Option.some.inj e ▸ hr, fun hr => ⟨t, rfl, hr⟩⟩

/-- task `i` goes from `t` to `t'`, and the queue changes only in what it says about `i` -/
theorem upd (h : QInv role l ts) (ht : ts[i]? = some t) (hh : headOk l')
    (hk : ∀ j b, (j, b) ∈ keys l' ↔ (j ≠ i ∧ (j, b) ∈ keys l) ∨ (j = i ∧ role t'.pc = some b)) :
    QInv role l' (ts.set i t') := by
  refine ⟨hh, fun j b => ?_⟩
  rw [hk, List.getElem?_set]
  by_cases hj : i = j
  · subst hj
    simp [(List.getElem?_eq_some_iff.1 ht).1]
  · rw [if_neg hj, ← h.mem]
    simp [Ne.symm hj]

theorem keep (h : QInv role l ts) (ht : ts[i]? = some t) (hr : role t'.pc = role t.pc) (hl : l' = l ∨ l' = l.release) :
    QInv role l' (ts.set i t') := by
  have ⟨hh, hk⟩ : headOk l' ∧ keys l' = keys l := by
    rcases hl with rfl | rfl
    · exact ⟨h.head, rfl⟩
    · exact ⟨headOk_release l, keys_release l⟩
  refine h.upd ht hh fun j b => ?_
  rw [hk, hr, ← h.mem_self ht]
  by_cases e : j = i <;> simp [e]

theorem fast (h : QInv role l ts) (ht : ts[i]? = some t) (hr : role t'.pc = role t.pc) :
    QInv role { l with locked := true } (ts.set i t') :=
  ⟨headOk_locked rfl, (h.keep ht hr (.inl rfl)).mem⟩

theorem enqueue (h : QInv role l ts) (ht : ts[i]? = some t) (hf : l.canFast = false) (hr : role t.pc = none)
    (hr' : role t'.pc = some true) : QInv role (l.enqueue i) (ts.set i t') := by
  refine h.upd ht (headOk_enqueue h.head i hf) fun j b => ?_
  have hn : (i, b) ∉ keys l := by rw [h.mem_self ht, hr]; nofun
  rw [keys_enqueue, List.mem_append, List.mem_singleton, hr', Prod.mk.injEq, Option.some.injEq]
  by_cases e : j = i <;> simp [e, hn, eq_comm]

/-- `i` leaves the queue: `take`, `unwind`, or an acquire by a task that was not queued -/
theorem remove (h : QInv role l ts) (ht : ts[i]? = some t) (hh : headOk l')
    (hk : ∀ j b, (j, b) ∈ keys l' ↔ (j, b) ∈ keys l ∧ j ≠ i) (hr' : role t'.pc = none) :
    QInv role l' (ts.set i t') := by
  refine h.upd ht hh fun j b => ?_
  rw [hk, hr']
  simp [and_comm]

theorem take (h : QInv role l ts) (ht : ts[i]? = some t) (hr' : role t'.pc = none) : QInv role (l.take i) (ts.set i t') :=
  h.remove ht (headOk_locked rfl) (keys_take l i ▸ mem_keys_drop l i) hr'

theorem unwind (h : QInv role l ts) (ht : ts[i]? = some t) (hr' : role t'.pc = none) :
    QInv role (l.unwind i) (ts.set i t') :=
  h.remove ht (headOk_unwind l i) (mem_keys_unwind l i) hr'

theorem markCancel (h : QInv role l ts) (ht : ts[i]? = some t) (hr : role t.pc = some true)
    (hr' : role t'.pc = some false) : QInv role (l.markCancel i) (ts.set i t') := by
  refine h.upd ht (headOk_markCancel h.head i) fun j b => ?_
  have hm : ∃ b0, (i, b0) ∈ keys l := ⟨true, (h.mem_self ht true).2 hr⟩
  rw [mem_keys_markCancel, hr', Option.some.injEq]
  simp [hm, eq_comm]

end QInv

structure PInv (s : St) : Prop where
  qr : QInv roleR s.r s.tasks
  qw : QInv roleW s.w s.tasks
  rl : s.r.locked = true → ∃ (j : Nat) (t : Task), s.tasks[j]? = some t ∧ holdsR t.pc = true

theorem PInv.init (progs : List (List Bool)) : PInv (St.init progs) := by
  have hq : ∀ role : PC → Option Bool, role .idle = none → QInv role ALock.free (St.init progs).tasks := by
    refine fun role hr => ⟨fun _ _ _ h => (nomatch h), fun j b => ⟨fun h => (nomatch h), fun ⟨t, ht, hb⟩ => ?_⟩⟩
    obtain ⟨p, _, rfl⟩ := List.mem_map.1 (List.mem_of_getElem? ht)
    rw [hr] at hb; cases hb
  exact ⟨hq _ rfl, hq _ rfl, fun h => nomatch h⟩

/-- task `i` goes from `t` to `t'`: `R` ends up free, or held by `i`, or as it was while `i` did not hold it -/
theorem PInv.upd {s : St} (h : PInv s) {i : Nat} {t t' : Task} (ht : s.tasks[i]? = some t) {r' w' : ALock} {c' : Nat}
    (qr : QInv roleR r' (s.tasks.set i t')) (qw : QInv roleW w' (s.tasks.set i t'))
    (rl : r'.locked = false ∨ holdsR t'.pc = true ∨ (r'.locked = s.r.locked ∧ holdsR t.pc = false)) :
    PInv (setPc ⟨r', w', c', s.tasks⟩ i t') := by
  refine ⟨qr, qw, fun (hl : r'.locked = true) => ?_⟩
  have hi := (List.getElem?_eq_some_iff.1 ht).1
  rcases rl with hf | hp | ⟨he, hp⟩
  · rw [hf] at hl; cases hl
  · exact ⟨i, t', List.getElem?_set_self hi, hp⟩
  · obtain ⟨j, tj, htj, hj⟩ := h.rl (he ▸ hl)
    refine ⟨j, tj, ?_, hj⟩
    show (s.tasks.set i t')[j]? = _
    rw [List.getElem?_set_ne, htj]
    rintro rfl
    rw [ht] at htj; cases htj
    rw [hp] at hj; cases hj

/-- the same for a move that leaves `R` alone, by a task that does not hold it -/
theorem PInv.updW {s : St} (h : PInv s) {i : Nat} {t t' : Task} (ht : s.tasks[i]? = some t) {w' : ALock} {c' : Nat}
    (hr : roleR t'.pc = roleR t.pc) (hp : holdsR t.pc = false) (qw : QInv roleW w' (s.tasks.set i t')) :
    PInv (setPc ⟨s.r, w', c', s.tasks⟩ i t') :=
  h.upd ht (h.qr.keep ht hr (.inl rfl)) qw (.inr (.inr ⟨rfl, hp⟩))

theorem PInv.after {s : St} (h : PInv s) {i : Nat} {t : Task} (ht : s.tasks[i]? = some t) (hw : roleW t.pc = none)
    {r1 r' w' : ALock} {c' : Nat} {p : PC} (hl : r1.locked = true)
    (hk : ∀ j b, (j, b) ∈ keys r1 ↔ (j, b) ∈ keys s.r ∧ j ≠ i) (ha : After s i r1 r' w' c' p) (ps : List Bool) :
    PInv (setPc ⟨r', w', c', s.tasks⟩ i ⟨p, ps⟩) := by
  have hrel := h.qr.remove (l' := r1.release) (t' := ⟨.rIn, ps⟩) ht (headOk_release r1)
    (fun j b => by rw [keys_release]; exact hk j b) rfl
  cases ha with
  | first _ hf => exact h.upd ht hrel (h.qw.fast ht hw.symm) (.inl (release_locked r1))
  | queue _ hf => exact h.upd ht (h.qr.remove ht (headOk_locked hl) hk rfl) (h.qw.enqueue ht hf hw rfl) (.inr (.inl rfl))
  | join _ => exact h.upd ht hrel (h.qw.keep ht hw.symm (.inl rfl)) (.inl (release_locked r1))

theorem PInv.move {s : St} (h : PInv s) {i : Nat} {t t' : Task} (ht : s.tasks[i]? = some t) {r' w' : ALock} {c' : Nat}
    (hm : Move s i t r' w' c' t') : PInv (setPc ⟨r', w', c', s.tasks⟩ i t') := by
  have same {l : ALock} : l = l ∨ l = l.release := .inl rfl
  -- in `h.updW ht rfl rfl …` the two `rfl` say: the role on `R` is unchanged, and the task does not hold `R`
  cases hm with
  | startR _ ha =>
    -- an idle task is not in `R`'s queue, so taking `i` out of the keys changes nothing
    refine h.after (r1 := { s.r with locked := true }) ht rfl rfl (fun j b => ⟨fun hm => ⟨hm, ?_⟩, And.left⟩) ha _
    rintro rfl
    cases (h.qr.mem_self ht b).1 hm
  | wokenR _ ha => exact h.after (r1 := s.r.take i) ht rfl rfl (mem_keys_drop s.r i) ha _
  | waitR hf => exact h.upd ht (h.qr.enqueue ht hf rfl rfl) (h.qw.keep ht rfl same) (.inr (.inr ⟨rfl, rfl⟩))
  | startW => exact h.updW ht rfl rfl (h.qw.fast ht rfl)
  | waitW hf => exact h.updW ht rfl rfl (h.qw.enqueue ht hf rfl rfl)
  | wokenRW => exact h.upd ht (h.qr.keep ht rfl (.inr rfl)) (h.qw.take ht rfl) (.inl (release_locked s.r))
  | wokenW => exact h.updW ht rfl rfl (h.qw.take ht rfl)
  | exitR | killR =>
    refine h.updW ht rfl rfl (h.qw.keep ht rfl ?_)
    rw [exitRead_w]
    split
    · exact .inr rfl
    · exact .inl rfl
  | exitW | killW => exact h.updW ht rfl rfl (h.qw.keep ht rfl (.inr rfl))
  | unwindR => exact h.upd ht (h.qr.unwind ht rfl) (h.qw.keep ht rfl same) (.inr (.inr ⟨unwind_locked s.r i, rfl⟩))
  | unwindRW => exact h.upd ht (h.qr.keep ht rfl (.inr rfl)) (h.qw.unwind ht rfl) (.inl (release_locked s.r))
  | unwindW => exact h.updW ht rfl rfl (h.qw.unwind ht rfl)
  | cancelR => exact h.upd ht (h.qr.markCancel ht rfl rfl) (h.qw.keep ht rfl same) (.inr (.inr ⟨rfl, rfl⟩))
  | cancelRW => exact h.upd ht (h.qr.keep ht rfl same) (h.qw.markCancel ht rfl rfl) (.inr (.inl rfl))
  | cancelW => exact h.updW ht rfl rfl (h.qw.markCancel ht rfl rfl)

theorem PInv.step {s s' : St} (h : PInv s) (l : Label) (hs : step s l = some s') : PInv s' := by
  obtain ⟨ht, hm⟩ := step_move hs
  exact h.move ht hm

theorem PInv.run {s s' : St} (h : PInv s) (ls : List Label) (hs : run s ls = some s') : PInv s' :=
  isRun.inv (fun _ l _ h hs => h.step l hs) hs h

end Pymap.RWLock
