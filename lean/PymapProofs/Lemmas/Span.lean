/-!
# Scanning a prefix off a list

The model's scanners (`Framing.spanDigits`, `AStr.spanAtom`, `ModUtf7.spanDash`, `ModUtf7.spanRun`) are each
`(l.takeWhile p, l.dropWhile p)` for their class `p`, so over `xs ++ rest` they stop exactly at `rest`.
-/
namespace Pymap
open List
variable {α : Type} {p : α → Bool} {f : List α → List α × List α} {xs rest : List α}

theorem scanner_eq_span (p : α → Bool) (hnil : f [] = ([], []))
    (hcons : ∀ b r, f (b :: r) = if p b then (b :: (f r).1, (f r).2) else ([], b :: r)) :
    ∀ l, f l = (l.takeWhile p, l.dropWhile p)
  | [] => hnil
  | b :: r => by
    rw [hcons, scanner_eq_span p hnil hcons r, takeWhile_cons, dropWhile_cons]
    cases p b <;> rfl

theorem scanner_append (hf : ∀ l, f l = (l.takeWhile p, l.dropWhile p)) (hx : ∀ a ∈ xs, p a = true)
    (hr : rest.head?.any p = false) : f (xs ++ rest) = (xs, rest) := by
  rw [hf, takeWhile_append_of_pos hx, dropWhile_append_of_pos hx]
  cases rest with
  | nil => rw [takeWhile_nil, dropWhile_nil, append_nil]
  | cons b t =>
    have hb : ¬ p b = true := by simpa using hr
    rw [takeWhile_cons_of_neg hb, dropWhile_cons_of_neg hb, append_nil]

theorem scanner_fst_append_snd (hf : ∀ l, f l = (l.takeWhile p, l.dropWhile p)) (l : List α) : (f l).1 ++ (f l).2 = l := by
  rw [hf]; exact takeWhile_append_dropWhile

theorem scanner_snd_length_le (hf : ∀ l, f l = (l.takeWhile p, l.dropWhile p)) (l : List α) : (f l).2.length ≤ l.length := by
  rw [hf]; exact (dropWhile_sublist p).length_le

end Pymap
