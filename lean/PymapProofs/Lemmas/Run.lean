/-!
# Runs of a labelled transition system whose steps may be disabled

The `Option`-valued runs of the models (a run is `none` as soon as a step is disabled) are all defined by the same two equations;
what is proved of such a run by induction over the labels is proved here once, from these equations.
-/
namespace Pymap

structure IsRun {σ ℓ : Type} (step : σ → ℓ → Option σ) (run : σ → List ℓ → Option σ) : Prop where
  nil  : ∀ s, run s [] = some s
  cons : ∀ s l ls, run s (l :: ls) = (step s l).bind (fun s' => run s' ls)

namespace IsRun
variable {σ ℓ : Type} {step : σ → ℓ → Option σ} {run : σ → List ℓ → Option σ}

theorem induction (hr : IsRun step run) {motive : σ → List ℓ → σ → Prop} (nil : ∀ s, motive s [] s)
    (cons : ∀ s l s₁ ls s', step s l = some s₁ → motive s₁ ls s' → motive s (l :: ls) s') :
    ∀ (ls : List ℓ) (s s' : σ), run s ls = some s' → motive s ls s'
  | [], s, s', h => by rw [hr.nil] at h; cases h; exact nil s
  | l :: ls, s, s', h => by
    rw [hr.cons] at h
    obtain ⟨s₁, h₁, h₂⟩ := Option.bind_eq_some_iff.1 h
    exact cons s l s₁ ls s' h₁ (induction hr nil cons ls s₁ s' h₂)

/-- what every enabled step with a label in `Q` preserves holds at the end of every run over such labels -/
theorem inv_of (hr : IsRun step run) {P : σ → Prop} {Q : ℓ → Prop}
    (hstep : ∀ s l s', Q l → P s → step s l = some s' → P s') {ls : List ℓ} {s s' : σ}
    (hs : run s ls = some s') (hQ : ∀ l ∈ ls, Q l) (h : P s) : P s' :=
  hr.induction (motive := fun s ls s' => (∀ l ∈ ls, Q l) → P s → P s') (fun _ _ h => h)
    (fun s l s₁ _ _ h₁ ih hQ h =>
      ih (fun l' hl' => hQ l' (List.mem_cons_of_mem _ hl')) (hstep s l s₁ (hQ l List.mem_cons_self) h h₁))
    ls s s' hs hQ h

theorem inv (hr : IsRun step run) {P : σ → Prop} (hstep : ∀ s l s', P s → step s l = some s' → P s')
    {ls : List ℓ} {s s' : σ} (hs : run s ls = some s') (h : P s) : P s' :=
  hr.inv_of (Q := fun _ => True) (fun s l s' _ => hstep s l s') hs (fun _ _ => trivial) h

theorem length_le (hr : IsRun step run) (μ : σ → Nat) (hstep : ∀ s l s', step s l = some s' → μ s' < μ s)
    {ls : List ℓ} {s s' : σ} (hs : run s ls = some s') : ls.length + μ s' ≤ μ s :=
  hr.induction (motive := fun s ls s' => ls.length + μ s' ≤ μ s) (fun _ => Nat.le_of_eq (Nat.zero_add _))
    (fun s l s₁ ls s' h₁ ih => by
      rw [List.length_cons, Nat.add_right_comm]
      exact Nat.le_trans (Nat.succ_le_succ ih) (hstep s l s₁ h₁)) ls s s' hs

end IsRun
end Pymap
