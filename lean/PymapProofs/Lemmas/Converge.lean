import PymapProofs.Lemmas.Mailbox
import PymapProofs.Lemmas.View
/-! C02 core: what one `update_selected` makes of a session's view, and what a session knows between them -/

namespace Pymap.Sync

theorem mem_addUpdates_uids (v : View) (msgs : List CMsg) (exp : List Nat) (hide : Bool) (u : Nat) :
    u ∈ (addUpdates v msgs exp hide).uids ↔
      (u ∈ v.uids ∨ u ∈ msgs.map (·.uid)) ∧ (hide = true ∨ (u ∉ exp ∧ u ∉ v.pending)) := by
  unfold addUpdates
  cases hide
  · -- not hidden: `_remove` filters out what is expunged or pending; the rest is Boolean plumbing
    rw [remove_uids_nonpending_eq, List.mem_filter, update_uids, update_pending]
    rw [Bool.not_eq_true', ← Bool.not_eq_true, List.contains_iff_mem, List.mem_append, not_or, or_iff_right Bool.false_ne_true]
  · rw [remove_uids_pending, update_uids, and_iff_left (.inl rfl)]

theorem addUpdates_pending (v : View) (msgs : List CMsg) (exp : List Nat) (hide : Bool) :
    (addUpdates v msgs exp hide).pending = if hide then exp ++ v.pending else [] := by
  unfold addUpdates
  cases hide
  · exact remove_pending_nonpending ..
  · simp [remove, update_pending]

/-- the flags `_update` leaves for `u`: the last delivered message with that uid wins, so it is enough
that all of them agree -/
theorem update_flagsOf_eq_some {v : View} {msgs : List CMsg} {u : Nat} {f : List Nat}
    (hall : ∀ c ∈ msgs, c.uid = u → c.flags = f) (h : u ∈ msgs.map (·.uid) ∨ v.flagsOf u = some f) :
    (update v msgs).flagsOf u = some f := by
  unfold View.flagsOf at h ⊢
  rw [update_fkeys]
  generalize v.fkeys = fk at h ⊢
  induction msgs generalizing fk with
  | nil => simpa using h
  | cons c cs ih =>
    rw [List.map_cons, List.reverse_cons, List.append_assoc]
    -- the hypothesis is the loop invariant: a later message will bind `u`, or the list so far binds it to `f`
    refine ih (fun c' hc' => hall c' (List.mem_cons_of_mem _ hc')) _ ?_
    refine Classical.or_iff_not_imp_left.2 fun hcs => ?_
    show (if u = c.uid then some c.flags else lookup u fk) = some f
    split
    · rename_i e; rw [hall c (List.mem_cons_self ..) e.symm]
    · rename_i e
      exact h.resolve_left fun hu => (List.mem_cons.1 hu).elim e hcs

end Pymap.Sync

namespace Pymap.Mailbox
open Pymap.ModSeq Pymap.Sync

/-- what a session that has consumed the log up to (excluding) `p` is guaranteed to hold -/
structure Consistent (b : MBox) (v : View) (p : Nat) : Prop where
  inView : ∀ u, u ∈ b.uids → (∀ m, alookup u b.log.last = some m → m < p) →
            u ∈ v.uids ∧ v.flagsOf u = (b.find u).map (·.flags)
  gone   : ∀ u, u ∉ b.uids → (∀ m, alookup u b.log.last = some m → m < p) →
            u ∉ v.uids ∨ u ∈ v.pending
  pend   : ∀ u ∈ v.pending, u ∉ b.uids
  bound  : ∀ u, u ∈ v.uids ∨ u ∈ v.pending → u ≤ b.maxUid

/-- the touched uids are logged at `highest + 1 ≥ p`, so nothing is claimed about them any more;
the others are untouched -/
theorem Logged.consistent {b b' : MBox} {us : List Nat} {k : Kind} {v : View} {p : Nat}
    (hl : Logged b b' us k) (hb : MBoxInv b) (hc : Consistent b v p) (hp : p ≤ b.log.highest + 1) :
    Consistent b' v p := by
  have hold : ∀ {u}, (∀ m, alookup u b'.log.last = some m → m < p) →
      u ∉ us ∧ ∀ m, alookup u b.log.last = some m → m < p := by
    intro u hall
    have hus : u ∉ us := fun hus => Nat.not_lt.2 hp (hall _ ((hl.last u).trans (if_pos hus)))
    exact ⟨hus, fun m hm => hall m ((hl.last u).trans ((if_neg hus).trans hm))⟩
  constructor
  case inView =>
    intro u hu hall
    obtain ⟨hus, hall⟩ := hold hall
    rw [hl.find hb hus]
    exact hc.inView u ((hl.mem_uids hus).1 hu) hall
  case gone =>
    intro u hu hall
    obtain ⟨hus, hall⟩ := hold hall
    exact hc.gone u (fun h => hu ((hl.mem_uids hus).2 h)) hall
  case pend =>
    intro u hu hu'
    exact (hl.grow u hu').elim (hc.pend u hu) (Nat.not_lt.2 (hc.bound u (.inr hu)))
  case bound =>
    intro u hu
    exact Nat.le_trans (hc.bound u hu) hl.maxUid

/-- the view `r`, made from `v` by one `update_selected`, holds the whole mailbox; what else it holds
is left over from `v`, waits in `pending` for its EXPUNGE, and occurs only while expunges are hidden -/
structure Refreshed (b : MBox) (v r : View) (hide : Bool) : Prop where
  inBox : ∀ u ∈ b.uids, u ∈ r.uids ∧ r.flagsOf u = (b.find u).map (·.flags)
  extra : ∀ u ∈ r.uids, u ∉ b.uids → u ∈ v.uids ∧ u ∈ r.pending
  pend  : ∀ u ∈ r.pending, hide = true ∧ u ∉ b.uids ∧ u ≤ b.maxUid
  keep  : hide = true → ∀ u ∈ v.uids, u ∈ r.uids

namespace Refreshed
variable {b : MBox} {v r : View} {hide : Bool}

theorem consistent (hs : Refreshed b v r hide) (hb : MBoxInv b) (q : Nat) : Consistent b r q where
  inView := fun u hu _ => hs.inBox u hu
  gone := fun u hu _ => Classical.or_iff_not_imp_left.2 fun h => (hs.extra u (Classical.not_not.1 h) hu).2
  pend := fun u hu => (hs.pend u hu).2.1
  bound := fun u hu => by
    by_cases hub : u ∈ b.uids
    · exact hb.le u hub
    · exact (hs.pend u (hu.elim (fun h => (hs.extra u h hub).2) id)).2.2

theorem mem_uids (hs : Refreshed b v r false) (u : Nat) : u ∈ r.uids ↔ u ∈ b.uids :=
  ⟨fun h => Classical.not_not.1 fun hub => Bool.false_ne_true (hs.pend u (hs.extra u h hub).2).1,
   fun h => (hs.inBox u h).1⟩

theorem pending (hs : Refreshed b v r false) : r.pending = [] :=
  List.eq_nil_iff_forall_not_mem.2 fun u hu => Bool.false_ne_true (hs.pend u hu).1

end Refreshed

/-- `add_updates` with any delivery that covers what the view lacks: the delivered messages are messages of the mailbox (`hms`); every
uid of the mailbox is delivered or already in the view with the right flags (`hin`); what the view holds beyond the mailbox is among
the expunged or already pending (`hout`); and those are indeed gone (`hgone`) -/
theorem refreshed_addUpdates {b : MBox} (hb : MBoxInv b) {v : View} {ms : List Msg} {exp : List Nat} (hide : Bool)
    (hms : ∀ m ∈ ms, m ∈ b.msgs)
    (hin : ∀ u ∈ b.uids, u ∈ ms.map (·.uid) ∨ (u ∈ v.uids ∧ v.flagsOf u = (b.find u).map (·.flags)))
    (hout : ∀ u ∈ v.uids, u ∉ b.uids → u ∈ exp ∨ u ∈ v.pending)
    (hgone : ∀ u, u ∈ exp ∨ u ∈ v.pending → u ∉ b.uids ∧ u ≤ b.maxUid) :
    Refreshed b v (addUpdates v (ms.map toC) exp hide) hide := by
  have hmap : (ms.map toC).map (·.uid) = ms.map (·.uid) := by rw [List.map_map]; rfl
  have huids := mem_addUpdates_uids v (ms.map toC) exp hide
  rw [hmap] at huids
  have hsub : ∀ {u}, u ∈ ms.map (·.uid) → u ∈ b.uids := fun hu => by
    obtain ⟨m, hm, rfl⟩ := List.mem_map.1 hu
    exact mem_uids.2 ⟨m, hms m hm, rfl⟩
  constructor
  case inBox =>
    intro u hu
    have hmem : u ∈ (addUpdates v (ms.map toC) exp hide).uids :=
      (huids u).2 ⟨(hin u hu).symm.imp (·.1) id, .inr ⟨fun h => (hgone u (.inl h)).1 hu, fun h => (hgone u (.inr h)).1 hu⟩⟩
    refine ⟨hmem, ?_⟩
    obtain ⟨m, hm⟩ := find_isSome hu
    rw [addUpdates, remove_flagsOf _ _ _ _ hmem, hm]
    refine update_flagsOf_eq_some (fun c hc hcu => ?_) ((hin u hu).imp (hmap ▸ id) fun h => by rw [h.2, hm]; rfl)
    -- a delivered message with uid `u` is a message of the mailbox, hence `m`
    obtain ⟨m', hm', rfl⟩ := List.mem_map.1 hc
    cases Option.some.inj ((find_of_mem hb.nodup (hms m' hm')).symm.trans (hcu ▸ hm))
    rfl
  case extra =>
    intro u hu hub
    obtain ⟨h1, h2⟩ := (huids u).1 hu
    have huv : u ∈ v.uids := h1.resolve_right fun h => hub (hsub h)
    refine ⟨huv, ?_⟩
    rw [addUpdates_pending]
    rcases h2 with rfl | h2
    · exact List.mem_append.2 (hout u huv hub)
    · exact absurd (hout u huv hub) (not_or.2 h2)
  case pend =>
    intro u hu
    rw [addUpdates_pending] at hu
    cases hide
    · contradiction
    · exact ⟨rfl, hgone u (List.mem_append.1 hu)⟩
  case keep =>
    exact fun hh u hu => (huids u).2 ⟨.inl hu, .inl hh⟩

/-- the first `update_selected` after SELECT (`mod_sequence is None`): the whole mailbox is loaded -/
theorem refreshed_first {b : MBox} (hb : MBoxInv b) (hide : Bool) :
    Refreshed b View.empty (updateSelected b View.empty none hide).1 hide :=
  refreshed_addUpdates hb hide (fun _ h => h) (fun _ hu => .inl hu) (fun _ h => nomatch h)
    (fun _ h => h.elim (nomatch ·) (nomatch ·))

/-- `find_updated(p)`, read against the store: the uids changed at or after `p`, by whether they still exist -/
theorem mem_findUpdated_fst {b : MBox} (hb : MBoxInv b) (p u : Nat) :
    u ∈ (findUpdated b.log p).1 ↔ u ∈ b.uids ∧ ∃ m, alookup u b.log.last = some m ∧ p ≤ m := by
  rw [findUpdated_updates hb.log]
  constructor
  · rintro ⟨m, hl, hpm, hu⟩; exact ⟨(hb.kind u m hl).1 hu, m, hl, hpm⟩
  · rintro ⟨hu, m, hl, hpm⟩; exact ⟨m, hl, hpm, (hb.kind u m hl).2 hu⟩

theorem mem_findUpdated_snd {b : MBox} (hb : MBoxInv b) (p u : Nat) :
    u ∈ (findUpdated b.log p).2 ↔ u ∉ b.uids ∧ ∃ m, alookup u b.log.last = some m ∧ p ≤ m := by
  rw [findUpdated_expunges hb.log]
  constructor
  · rintro ⟨m, hl, hpm, hu⟩; exact ⟨fun h => hb.log.not_inU_of_inE hu ((hb.kind u m hl).2 h), m, hl, hpm⟩
  · rintro ⟨hu, m, hl, hpm⟩
    exact ⟨m, hl, hpm, (hb.log.lastMem u m hl).resolve_left fun h => hu ((hb.kind u m hl).1 h)⟩

/-- `update_selected` of a session that knew the log up to `p`: exactly what it did not know is delivered -/
theorem refreshed_updateSelected {b : MBox} {v : View} {p : Nat} (hb : MBoxInv b) (hc : Consistent b v p)
    (hide : Bool) : Refreshed b v (updateSelected b v (some p) hide).1 hide := by
  have hnew : ∀ u, ¬ (∀ m, alookup u b.log.last = some m → m < p) →
      ∃ m, alookup u b.log.last = some m ∧ p ≤ m := fun u h =>
    Classical.byContradiction fun h' => h fun m hm => Nat.lt_of_not_le fun hpm => h' ⟨m, hm, hpm⟩
  refine refreshed_addUpdates (ms := (findUpdated b.log p).1.filterMap b.find) hb hide ?_ ?_ ?_ ?_
  · intro m hm
    obtain ⟨x, -, hx⟩ := List.mem_filterMap.1 hm
    exact (find_some hx).1
  · intro u hu
    refine Classical.or_iff_not_imp_right.2 fun h => ?_
    obtain ⟨m, hm⟩ := find_isSome hu
    refine List.mem_map.2 ⟨m, List.mem_filterMap.2 ⟨u, ?_, hm⟩, (find_some hm).2⟩
    exact (mem_findUpdated_fst hb p u).2 ⟨hu, hnew u fun hall => h (hc.inView u hu hall)⟩
  · intro u hu hub
    refine Classical.or_iff_not_imp_right.2 fun h => ?_
    exact (mem_findUpdated_snd hb p u).2 ⟨hub, hnew u fun hall => (hc.gone u hub hall).elim (· hu) h⟩
  · rintro u (hu | hu)
    · obtain ⟨hub, m, hl, -⟩ := (mem_findUpdated_snd hb p u).1 hu
      exact ⟨hub, hb.lastLe u m hl⟩
    · exact ⟨hc.pend u hu, hc.bound u (.inr hu)⟩

/-- **C02 core.** After `update_selected` with expunges not hidden, the view *is* the mailbox. -/
theorem sync_converges {b : MBox} {v : View} {p : Nat} (hb : MBoxInv b) (hc : Consistent b v p) :
    let r := updateSelected b v (some p) false
    (∀ u, u ∈ r.1.uids ↔ u ∈ b.uids) ∧
    (∀ u ∈ b.uids, r.1.flagsOf u = (b.find u).map (·.flags)) ∧
    r.1.pending = [] ∧ r.2 = b.log.highest :=
  have hs := refreshed_updateSelected hb hc false
  ⟨hs.mem_uids, fun u hu => (hs.inBox u hu).2, hs.pending, rfl⟩

#print axioms sync_converges
end Pymap.Mailbox
