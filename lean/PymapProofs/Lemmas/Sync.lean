import PymapModel.Sync
/-! Strictly increasing lists, the association-list `lookup`, and the representation invariant of
`SynchronizedMessages` with its preservation by `_update` and `_remove` (behind C01). -/
namespace Pymap.Sync

theorem pairwise_lt_nodup {l : List Nat} (h : l.Pairwise (· < ·)) : l.Nodup :=
  h.imp Nat.ne_of_lt

theorem sorted_unique {l1 l2 : List Nat} (h1 : l1.Pairwise (· < ·)) (h2 : l2.Pairwise (· < ·))
    (h : ∀ x, x ∈ l1 ↔ x ∈ l2) : l1 = l2 :=
  ((List.perm_ext_iff_of_nodup (pairwise_lt_nodup h1) (pairwise_lt_nodup h2)).2 h).eq_of_pairwise
    (fun _ _ _ _ hab hba => absurd hab (Nat.lt_asymm hba)) h1 h2

theorem sorted_split (p : Nat → Bool) {l : List Nat} (h : l.Pairwise (· < ·))
    (hsep : ∀ x ∈ l, ∀ y ∈ l, p x = true → p y = false → x < y) :
    l = l.filter p ++ l.filter (fun x => !p x) := by
  refine sorted_unique h (List.pairwise_append.2 ⟨h.filter _, h.filter _, ?_⟩)
    (fun x => (List.filter_append_perm p l).mem_iff.symm)
  intro x hx y hy
  rw [List.mem_filter] at hx hy
  exact hsep x hx.1 y hy.1 hx.2 (by simpa using hy.2)

theorem le_getLastD : ∀ (l : List Nat), l.Pairwise (· < ·) → ∀ u ∈ l, u ≤ l.getLastD 0 := by
  intro l
  induction l with
  | nil => exact fun _ _ h => nomatch h
  | cons a r ih =>
    intro hp u h
    rw [List.pairwise_cons] at hp
    cases r with
    | nil => exact Nat.le_of_eq (List.mem_singleton.1 h)
    | cons b r =>
      have ih : ∀ u ∈ b :: r, u ≤ (a :: b :: r).getLastD 0 := ih hp.2
      rcases List.mem_cons.1 h with rfl | h
      · exact Nat.le_trans (Nat.le_of_lt (hp.1 b List.mem_cons_self)) (ih b List.mem_cons_self)
      · exact ih u h

theorem mem_insertSorted {u x : Nat} {l : List Nat} : x ∈ insertSorted u l ↔ x = u ∨ x ∈ l := by
  induction l with
  | nil => simp [insertSorted]
  | cons v vs ih =>
    simp only [insertSorted]; split
    · simp
    · simp [ih, or_left_comm]

theorem insertSorted_pairwise {u : Nat} {l : List Nat} (h : l.Pairwise (· < ·)) (hu : u ∉ l) :
    (insertSorted u l).Pairwise (· < ·) := by
  induction l with
  | nil => simp [insertSorted]
  | cons v vs ih =>
    rw [List.pairwise_cons] at h
    rw [List.mem_cons, not_or] at hu
    simp only [insertSorted]; split
    · rename_i hlt
      simp only [List.pairwise_cons, List.mem_cons, forall_eq_or_imp]
      exact ⟨⟨hlt, fun a ha => Nat.lt_trans hlt (h.1 a ha)⟩, h⟩
    · rename_i hge
      simp only [List.pairwise_cons, mem_insertSorted, forall_eq_or_imp]
      exact ⟨⟨Nat.lt_of_le_of_ne (Nat.le_of_not_lt hge) (Ne.symm hu.1), h.1⟩, ih h.2 hu.2⟩

/-- `list.insert(bisect_right(l, u), u)` -/
theorem insertSorted_eq (u : Nat) (l : List Nat) :
    insertSorted u l = l.take (bisectRight u l) ++ u :: l.drop (bisectRight u l) := by
  induction l with
  | nil => simp [insertSorted, bisectRight]
  | cons v vs ih =>
    simp only [insertSorted, bisectRight]; split
    · simp
    · simp [ih]

theorem bisectRight_le (u : Nat) (l : List Nat) : bisectRight u l ≤ l.length := by
  induction l with
  | nil => simp [bisectRight]
  | cons v vs ih => simp only [bisectRight]; split <;> simp <;> omega

theorem mem_sortAsc {x : Nat} {l : List Nat} : x ∈ sortAsc l ↔ x ∈ l := by
  induction l with
  | nil => simp [sortAsc]
  | cons a as ih => rw [show sortAsc (a :: as) = insertSorted a (sortAsc as) from rfl, mem_insertSorted, ih]; simp

theorem sortAsc_pairwise {l : List Nat} (h : l.Nodup) : (sortAsc l).Pairwise (· < ·) := by
  induction l with
  | nil => simp [sortAsc]
  | cons a as ih =>
    rw [List.nodup_cons] at h
    exact insertSorted_pairwise (ih h.2) (fun hc => h.1 (mem_sortAsc.1 hc))

theorem sortAsc_of_sorted {l : List Nat} (h : l.Pairwise (· < ·)) : sortAsc l = l :=
  sorted_unique (sortAsc_pairwise (pairwise_lt_nodup h)) h (fun _ => mem_sortAsc)

theorem lookup_append {β : Type} (k : Nat) (a b : List (Nat × β)) :
    lookup k (a ++ b) = (lookup k a).or (lookup k b) := by
  induction a with
  | nil => simp [lookup]
  | cons p r ih => obtain ⟨k', v⟩ := p; simp only [List.cons_append, lookup]; split <;> simp [ih]

theorem lookup_none_of_not_mem {β : Type} (k : Nat) (l : List (Nat × β)) (h : ∀ p ∈ l, p.1 ≠ k) :
    lookup k l = none := by
  induction l with
  | nil => rfl
  | cons p r ih =>
    simp only [lookup, Ne.symm (h p (by simp)), if_false]
    exact ih (fun p hp => h p (by simp [hp]))

theorem lookup_of_mem {β : Type} {k : Nat} {v : β} {l : List (Nat × β)} (hnd : (l.map (·.1)).Nodup)
    (h : (k, v) ∈ l) : lookup k l = some v := by
  induction l with
  | nil => simp at h
  | cons p r ih =>
    rw [List.map_cons, List.nodup_cons] at hnd
    rcases List.mem_cons.1 h with rfl | h
    · simp [lookup]
    · have : k ≠ p.1 := fun e => hnd.1 (e ▸ List.mem_map.2 ⟨_, h, rfl⟩)
      simp only [lookup, this, if_false]
      exact ih hnd.2 h

theorem lookup_zipIdx_reverse (l : List Nat) (n : Nat) (hnd : l.Nodup) (i : Nat) (hi : i < l.length) :
    lookup l[i] (l.zipIdx n).reverse = some (n + i) := by
  apply lookup_of_mem
  · rw [List.map_reverse, List.zipIdx_map_fst]; exact (List.reverse_perm l).nodup_iff.2 hnd
  · simp [List.mk_mem_zipIdx_iff_le_and_getElem?_sub, hi]

theorem lookup_filter_key {β : Type} (p : Nat → Bool) (k : Nat) (hk : p k = true) (l : List (Nat × β)) :
    lookup k (l.filter (fun q => p q.1)) = lookup k l := by
  induction l with
  | nil => rfl
  | cons q r ih =>
    rw [List.filter_cons]
    by_cases e : k = q.1
    · simp [← e, hk, lookup]
    · split <;> simp [lookup, e, ih]

theorem renumberFrom_eq (seqs : List (Nat × Nat)) (sorted : List Nat) (l : Nat) :
    renumberFrom seqs sorted l = ((sorted.drop l).zipIdx (l+1)).reverse ++ seqs :=
  List.foldl_flip_cons_eq_append'

/-- representation invariant of `SynchronizedMessages` -/
def Coherent (v : View) : Prop :=
  v.sorted.Pairwise (· < ·) ∧ (∀ u, u ∈ v.uids ↔ u ∈ v.sorted) ∧ v.uids.Nodup ∧
  ∀ i (h : i < v.sorted.length), lookup v.sorted[i] v.seqs = some (i+1)

/-- `Coherent`, with the sequence cache known to be right only at positions below `n`: what holds inside
`_update`, which inserts first and re-numbers from `lowest_idx` afterwards -/
def CoherentBelow (n : Nat) (v : View) : Prop :=
  v.sorted.Pairwise (· < ·) ∧ (∀ u, u ∈ v.uids ↔ u ∈ v.sorted) ∧ v.uids.Nodup ∧
  ∀ i (h : i < v.sorted.length), i < n → lookup v.sorted[i] v.seqs = some (i+1)

theorem Coherent.nodup {v : View} (h : Coherent v) : v.uids.Nodup := h.2.2.1

/-- a uid of the view has a position in `_sorted`, and the sequence cache holds that position -/
theorem Coherent.seq_of_mem {v : View} (h : Coherent v) {u : Nat} (hu : u ∈ v.uids) :
    ∃ i, ∃ hi : i < v.sorted.length, v.sorted[i] = u ∧ lookup u v.seqs = some (i + 1) := by
  obtain ⟨i, hi, rfl⟩ := List.mem_iff_getElem.1 ((h.2.1 u).1 hu)
  exact ⟨i, hi, rfl, h.2.2.2 i hi⟩

theorem Coherent.below {v : View} (h : Coherent v) (n : Nat) : CoherentBelow n v :=
  ⟨h.1, h.2.1, h.2.2.1, fun i hi _ => h.2.2.2 i hi⟩

theorem CoherentBelow.coherent {n : Nat} {v : View} (h : CoherentBelow n v) (hn : v.sorted.length ≤ n) :
    Coherent v :=
  ⟨h.1, h.2.1, h.2.2.1, fun i hi => h.2.2.2 i hi (Nat.lt_of_lt_of_le hi hn)⟩

theorem CoherentBelow.insert {n k u : Nat} {v : View} (h : CoherentBelow n v) (hu : u ∉ v.uids)
    (hkn : k ≤ n) (hk : k ≤ bisectRight u v.sorted) (fk : List (Nat × List Nat)) :
    CoherentBelow k { v with uids := u :: v.uids, sorted := insertSorted u v.sorted, fkeys := fk } := by
  obtain ⟨hp, hm, hnd, hs⟩ := h
  refine ⟨insertSorted_pairwise hp (fun hc => hu ((hm u).2 hc)), ?_, List.nodup_cons.2 ⟨hu, hnd⟩, ?_⟩
  · intro x
    show x ∈ u :: v.uids ↔ x ∈ insertSorted u v.sorted
    rw [mem_insertSorted, List.mem_cons, hm]
  · intro i hi hik
    have hib : i < bisectRight u v.sorted := Nat.lt_of_lt_of_le hik hk
    have hil : i < v.sorted.length := Nat.lt_of_lt_of_le hib (bisectRight_le u v.sorted)
    have hget : (insertSorted u v.sorted)[i]'hi = v.sorted[i] := by
      simp only [insertSorted_eq]
      rw [List.getElem_append_left (by rw [List.length_take]; exact Nat.lt_min.2 ⟨hib, hil⟩),
        List.getElem_take]
    show lookup (insertSorted u v.sorted)[i] v.seqs = some (i+1)
    rw [hget]
    exact hs i hil (Nat.lt_of_lt_of_le hik hkn)

theorem CoherentBelow.renumber {l : Nat} {v : View} (h : CoherentBelow l v) :
    Coherent { v with seqs := renumberFrom v.seqs v.sorted l } := by
  obtain ⟨hp, hm, hnd, hs⟩ := h
  have hnds := pairwise_lt_nodup hp
  refine ⟨hp, hm, hnd, fun i (hi : i < v.sorted.length) => ?_⟩
  show lookup v.sorted[i] (renumberFrom v.seqs v.sorted l) = some (i+1)
  rw [renumberFrom_eq, lookup_append]
  rcases Nat.lt_or_ge i l with hil | hli
  · -- below `l` the old entry answers: the new bindings are for `sorted[l + j]`
    rw [lookup_none_of_not_mem, Option.none_or]
    · exact hs i hi hil
    intro p hp' heq
    obtain ⟨j, hj, rfl⟩ := List.mem_iff_getElem.1 (List.mem_reverse.1 hp')
    rw [List.getElem_zipIdx, List.getElem_drop] at heq
    have : l + j = i := (List.getElem_inj hnds).1 heq
    exact Nat.not_le_of_lt hil (this ▸ Nat.le_add_right l j)
  · -- `sorted[l + j]` is entry `j` of the re-numbered suffix, bound to `l + 1 + j`
    obtain ⟨j, rfl⟩ := Nat.exists_eq_add_of_le hli
    have hj : j < (v.sorted.drop l).length := by
      rw [List.length_drop]
      exact Nat.lt_sub_of_add_lt (Nat.add_comm l j ▸ hi)
    rw [← List.getElem_drop (h := hj), lookup_zipIdx_reverse _ _ (hnds.sublist (List.drop_sublist _ _)),
      Option.some_or, Nat.add_right_comm]

/-- the loop invariant of `_update`: the cache is right below `lowest_idx`, and everywhere while that is still `None` -/
theorem updateLoop_coherentBelow (v : View) (lo : Option Nat) (msgs : List CMsg)
    (h : CoherentBelow (lo.getD v.sorted.length) v) :
    CoherentBelow ((updateLoop v lo msgs).2.getD (updateLoop v lo msgs).1.sorted.length) (updateLoop v lo msgs).1 := by
  induction msgs generalizing v lo with
  | nil => exact h
  | cons m ms ih =>
    simp only [updateLoop]
    split
    · exact ih _ _ h
    · rename_i hu
      have hle := bisectRight_le m.uid v.sorted
      apply ih
      cases lo with
      | none => exact h.insert hu hle (Nat.le_refl _) _
      | some l => exact h.insert hu (Nat.min_le_left _ _) (Nat.min_le_right _ _) _

theorem update_eq_updateLoop (v : View) (msgs : List CMsg) :
    ∃ s, update v msgs = { (updateLoop v none msgs).1 with seqs := s } := by
  unfold update
  rcases updateLoop v none msgs with ⟨v', _ | l⟩ <;> exact ⟨_, rfl⟩

theorem update_coherent (v : View) (msgs : List CMsg) (h : Coherent v) : Coherent (update v msgs) := by
  have := updateLoop_coherentBelow v none msgs (h.below _)
  unfold update
  split <;> rename_i heq <;> rw [heq] at this
  · exact this.coherent (Nat.le_refl _)
  · exact this.renumber

theorem remove_coherent (v : View) (exp : List Nat) (pm : Bool) (h : Coherent v) :
    Coherent (remove v exp pm) := by
  unfold remove
  split
  · exact h
  · simp only []
    split
    · exact h
    · have hnd' : (v.uids.filter (fun u => !((exp ++ v.pending).contains u))).Nodup :=
        h.nodup.sublist List.filter_sublist
      refine ⟨sortAsc_pairwise hnd', fun u => mem_sortAsc.symm, hnd', fun i hi => ?_⟩
      rw [← Nat.add_comm 1 i]
      exact lookup_zipIdx_reverse _ 1 (pairwise_lt_nodup (sortAsc_pairwise hnd')) i hi

theorem addUpdates_coherent (v : View) (msgs : List CMsg) (exp : List Nat) (hide : Bool)
    (h : Coherent v) : Coherent (addUpdates v msgs exp hide) :=
  remove_coherent _ _ _ (update_coherent _ _ h)

theorem coherent_empty : Coherent View.empty := by
  simp [Coherent, View.empty]

end Pymap.Sync
