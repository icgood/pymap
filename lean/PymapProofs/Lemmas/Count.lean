/-!
# Counting the entries of a list that satisfy a predicate, and summing over a list, when one entry is replaced

The lock models keep their threads in a list and move one thread at a time with `List.set`; their invariants count the
threads at certain program points, and are written with `ind` (declared as `RWLock.ind`, the name the asyncio lock's statements use).
-/
namespace Pymap.RWLock

def ind (b : Bool) : Nat := if b then 1 else 0

end Pymap.RWLock

namespace Pymap
open Pymap.RWLock (ind)

theorem ind_le_one (b : Bool) : ind b ≤ 1 := by cases b <;> decide

theorem ind_pos (b : Bool) : 1 ≤ ind b ↔ b = true := by cases b <;> decide

theorem set_split {α : Type} {l : List α} {i : Nat} {a : α} (h : l[i]? = some a) (b : α) :
    ∃ l₁ l₂, l = l₁ ++ a :: l₂ ∧ l.set i b = l₁ ++ b :: l₂ := by
  obtain ⟨hi, rfl⟩ := List.getElem?_eq_some_iff.1 h
  refine ⟨l.take i, l.drop (i + 1), by simp, ?_⟩
  rw [List.set_eq_take_append_cons_drop, if_pos hi]

theorem countP_set {α : Type} (p : α → Bool) (l : List α) (i : Nat) (a b : α) (h : l[i]? = some a) :
    (l.set i b).countP p + ind (p a) = l.countP p + ind (p b) := by
  obtain ⟨l₁, l₂, e₁, e₂⟩ := set_split h b
  rw [e₂, e₁, List.countP_append, List.countP_append, List.countP_cons, List.countP_cons]
  cases p a <;> cases p b <;> rfl

/-- A count after one entry has been replaced: `b` says whether the old entry was counted, `b'` whether the new one is.  Unlike the
equation between sums `countP_set`, this is a term for the new count, and it evaluates when `b` and `b'` are literals. -/
def shift (n : Nat) : (b b' : Bool) → Nat
  | false, true => n + 1
  | true, false => n - 1
  | _, _ => n

theorem countP_set_shift {α : Type} (p : α → Bool) {l : List α} {i : Nat} {a : α} (h : l[i]? = some a) (b : α) :
    (l.set i b).countP p = shift (l.countP p) (p a) (p b) := by
  obtain ⟨l₁, l₂, e₁, e₂⟩ := set_split h b
  rw [e₂, e₁, List.countP_append, List.countP_append, List.countP_cons, List.countP_cons]
  cases p a <;> cases p b <;> rfl

theorem sum_map_set_lt {α : Type} (f : α → Nat) {l : List α} {i : Nat} {a b : α} (h : l[i]? = some a) (hf : f b < f a) :
    ((l.set i b).map f).sum < (l.map f).sum := by
  obtain ⟨l₁, l₂, e₁, e₂⟩ := set_split h b
  rw [e₂, e₁]; simp only [List.map_append, List.map_cons, List.sum_append_nat, List.sum_cons]
  exact Nat.add_lt_add_left (Nat.add_lt_add_right hf _) _

theorem countP_map_eq_zero {α β : Type} {f : α → β} {p : β → Bool} (h : ∀ a, p (f a) = false) (l : List α) :
    (l.map f).countP p = 0 := by
  rw [List.countP_map, List.countP_eq_zero]; intro a _; simp [h a]

theorem countP_pos_of_getElem {α : Type} (p : α → Bool) (l : List α) (i : Nat) (a : α)
    (h : l[i]? = some a) (hp : p a = true) : 1 ≤ l.countP p :=
  List.one_le_countP_iff.2 ⟨a, List.mem_of_getElem? h, hp⟩

theorem countP_lt_countP {α : Type} {p q : α → Bool} (hpq : ∀ a, p a = true → q a = true) {l : List α} {i : Nat} {a : α}
    (h : l[i]? = some a) (hq : q a = true) (hp : p a = false) : l.countP p < l.countP q := by
  obtain ⟨l₁, l₂, e, _⟩ := set_split h a
  have h₁ : l₁.countP p ≤ l₁.countP q := List.countP_mono_left fun a _ => hpq a
  have h₂ : l₂.countP p ≤ l₂.countP q := List.countP_mono_left fun a _ => hpq a
  rw [e, List.countP_append, List.countP_append, List.countP_cons_of_pos hq,
    List.countP_cons_of_neg (Bool.not_eq_true _ ▸ hp)]
  exact Nat.lt_succ_of_le (Nat.add_le_add h₁ h₂)

theorem exists_of_countP {α : Type} (p : α → Bool) (l : List α) (h : 1 ≤ l.countP p) :
    ∃ (i : Nat) (a : α), l[i]? = some a ∧ p a = true := by
  obtain ⟨a, ha, hp⟩ := List.one_le_countP_iff.1 h
  obtain ⟨i, hi⟩ := List.getElem?_of_mem ha
  exact ⟨i, a, hi, hp⟩

theorem countP_two_of_lt {α : Type} (p : α → Bool) (l : List α) {i j : Nat} (a b : α) (hij : i < j)
    (ha : l[i]? = some a) (hb : l[j]? = some b) (hpa : p a = true) (hpb : p b = true) : 2 ≤ l.countP p := by
  rw [← List.take_append_drop j l, List.countP_append]
  have h1 := countP_pos_of_getElem p (l.take j) i a (by rw [List.getElem?_take_of_lt hij]; exact ha) hpa
  have h2 := countP_pos_of_getElem p (l.drop j) 0 b (by rw [List.getElem?_drop]; exact hb) hpb
  exact Nat.add_le_add h1 h2

theorem countP_two {α : Type} (p : α → Bool) (l : List α) (i j : Nat) (a b : α) (hij : i ≠ j)
    (ha : l[i]? = some a) (hb : l[j]? = some b) (hpa : p a = true) (hpb : p b = true) : 2 ≤ l.countP p := by
  rcases Nat.lt_or_gt_of_ne hij with h | h
  · exact countP_two_of_lt p l a b h ha hb hpa hpb
  · exact countP_two_of_lt p l b a h hb ha hpb hpa

end Pymap
