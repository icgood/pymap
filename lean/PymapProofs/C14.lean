import PymapModel.Faults
import PymapProofs.Lemmas.Run
/-!
# C14 — no message is lost or half-applied when a command fails midway
-/
namespace Pymap.C14
open Pymap.Faults

/-- what holds of the moved message `c` at every boundary of the repaired MOVE -/
structure Inv (c : Nat) (s : St) : Prop where
  atStart   : s.pc = .start → c ∈ s.src
  atCopied  : ∀ c', s.pc = .copied c' → c' = c ∧ c ∈ s.dst
  noHolding : ∀ c', s.pc ≠ .holding c'
  atDone    : s.pc = .done → c ∈ s.dst ∧ c ∉ s.src
  atCancel  : s.pc = .cancelled → c ∈ s.src ∨ c ∈ s.dst

theorem _root_.Pymap.Faults.isRun (repaired : Bool) (c : Nat) : IsRun (Faults.step repaired c) (Faults.run repaired c) :=
  ⟨fun _ => rfl, fun _ _ _ => rfl⟩

theorem _root_.Pymap.Faults.arun_isRun : IsRun astep arun := ⟨fun _ => rfl, fun _ _ _ => rfl⟩

theorem Inv.somewhere {c : Nat} {s : St} (h : Inv c s) : c ∈ s.src ∨ c ∈ s.dst := by
  cases hp : s.pc with
  | start => exact Or.inl (h.atStart hp)
  | holding c' => exact absurd hp (h.noHolding c')
  | copied c' => exact Or.inr (h.atCopied c' hp).2
  | done => exact Or.inr (h.atDone hp).1
  | cancelled => exact h.atCancel hp

/-- other sessions change the mailboxes, not the mover's `pc`: the invariant only asks that `c` stays where it is -/
theorem Inv.frame {c : Nat} {s : St} (h : Inv c s) {src' dst' : List Nat} (hsrc : c ∈ src' ↔ c ∈ s.src)
    (hdst : c ∈ s.dst → c ∈ dst') : Inv c { s with src := src', dst := dst' } :=
  ⟨fun hp => hsrc.2 (h.atStart hp), fun c' hp => ⟨(h.atCopied c' hp).1, hdst (h.atCopied c' hp).2⟩, h.noHolding,
   fun hp => ⟨hdst (h.atDone hp).1, fun hc => (h.atDone hp).2 (hsrc.1 hc)⟩, fun hp => (h.atCancel hp).imp hsrc.2 hdst⟩

theorem Inv.step {c : Nat} {s s' : St} (h : Inv c s) (l : Label)
    (hl : ∀ x, (l = .otherExpunge x ∨ l = .otherAppend x) → x ≠ c)
    (hs : Faults.step true c s l = some s') : Inv c s' := by
  revert hs
  fun_cases Faults.step true c s l with
  | case1 =>                              -- the mover copies: `c` is now in the destination as well
    rintro ⟨⟩
    exact ⟨nofun, fun c' hc' => ⟨(PC.copied.inj hc').symm, List.mem_append_right _ (List.mem_singleton_self c)⟩,
      nofun, nofun, nofun⟩
  | case2 _ _ hr => exact absurd rfl hr   -- the branch of the code as found
  | case3 hp hc => exact absurd (List.contains_iff_mem.2 (h.atStart hp)) hc   -- at `start` with `c` gone from the source: it is there
  | case4 c' hp => exact absurd hp (h.noHolding c')                            -- `holding` occurs in the code as found only
  | case5 c' hp =>                        -- the mover removes the source copy
    rintro ⟨⟩
    obtain ⟨rfl, hd⟩ := h.atCopied c' hp
    exact ⟨nofun, nofun, nofun, fun _ => ⟨hd, fun hm => by simpa using (List.mem_filter.1 hm).2⟩, nofun⟩
  | case6 | case7 | case8 => nofun        -- the mover has no step at `done` or `cancelled`, and neither can be cancelled
  | case9 =>                              -- cancelled at a boundary
    rintro ⟨⟩
    exact ⟨nofun, nofun, nofun, nofun, fun _ => h.somewhere⟩
  | case10 x =>                           -- another session expunges `x`
    have hx : c ≠ x := fun e => hl x (Or.inl rfl) e.symm
    rintro ⟨⟩
    exact h.frame (by simp [List.mem_filter, hx]) id
  | case11 x =>                           -- another session appends `x`
    have hx : c ≠ x := fun e => hl x (Or.inr rfl) e.symm
    rintro ⟨⟩
    exact h.frame (by simp [hx]) id
  | case12 x =>                           -- another session copies `x` into the destination
    rintro ⟨⟩
    exact h.frame Iff.rfl (List.mem_append_left _)

/-- **Conservation (repaired MOVE).** Under every schedule of the mover's own steps, a cancellation at
any boundary, other sessions appending or expunging other messages and copying any message (the moved
one included) into the destination: the moved message is never
outside both mailboxes; once the MOVE has completed it is in the destination and not in the source. -/
theorem C14_conservation (c : Nat) (s0 : St) (h0 : s0.pc = .start) (hc : c ∈ s0.src)
    (ls : List Label) (hother : ∀ x, (Label.otherExpunge x ∈ ls ∨ Label.otherAppend x ∈ ls) → x ≠ c) (s : St)
    (hs : run true c s0 ls = some s) :
    (c ∈ s.src ∨ c ∈ s.dst) ∧ (s.pc = .done → c ∈ s.dst ∧ c ∉ s.src) := by
  have h0inv : Inv c s0 := ⟨fun _ => hc, by simp [h0], by simp [h0], by simp [h0], by simp [h0]⟩
  have := (Faults.isRun true c).inv_of (fun _ l _ hl h hs => h.step l hl hs) hs
    (fun l hl x hx => hother x (by rcases hx with rfl | rfl; exact Or.inl hl; exact Or.inr hl)) h0inv
  exact ⟨this.somewhere, this.atDone⟩

/-- the code as found loses the message when the mover is cancelled between the two locks -/
theorem C14_move_loses_as_found :
    ∃ s, run false 7 ⟨[7, 8], [], .start⟩ [.step, .cancel] = some s ∧ 7 ∉ s.src ∧ 7 ∉ s.dst := by decide

/-- multi-APPEND is *not* all-or-nothing (known finding D21): cancelled after the first of two messages,
the command has not completed and one message is in the mailbox -/
theorem C14_multiappend_atomic_full_false :
    ∃ s, arun ⟨[], [1, 2], true⟩ [.step, .cancel] = some s ∧ s.live = false ∧ s.box = [1] := by decide

theorem astep_conserves {s s' : ASt} (l : Label) (hs : astep s l = some s') : s'.box ++ s'.todo = s.box ++ s.todo := by
  cases l with
  | step =>
    rw [astep, Option.ite_none_right_eq_some] at hs
    cases ht : s.todo with
    | nil => rw [ht] at hs; cases hs.2
    | cons m r => rw [ht] at hs; cases hs.2; exact List.append_assoc _ [m] r
  | cancel => rw [astep, Option.ite_none_right_eq_some] at hs; cases hs.2; rfl
  | otherExpunge _ | otherAppend _ | otherCopyDst _ => cases hs; rfl

/-- whatever is cancelled, and wherever: what is stored and what is still to be added together stay the same -/
theorem arun_conserves {s s' : ASt} {ls : List Label} (hs : arun s ls = some s') : s'.box ++ s'.todo = s.box ++ s.todo :=
  Faults.arun_isRun.inv (P := fun x => x.box ++ x.todo = s.box ++ s.todo) (fun _ l _ h hs => (astep_conserves l hs).trans h) hs rfl

/-- a single-message APPEND is all-or-nothing (unlike multi-APPEND, `C14_multiappend_atomic_full_false`): if it did not complete,
nothing was added -/
theorem C14_multiappend_atomic_partial (m : Nat) (box : List Nat) (ls : List Label) (s : ASt)
    (hs : arun ⟨box, [m], true⟩ ls = some s) : s.todo = [m] → s.box = box := by
  intro ht
  have := arun_conserves hs
  rw [ht] at this
  exact List.append_cancel_right this

end Pymap.C14
