import PymapModel.Namespace
/-!
# C11 — mailbox namespace commands behave as the reference model says
-/
namespace Pymap.C11
open Pymap.Namespace

/-! `wild`, one equation for each shape of pattern and name; the last three are the three cases of `stepPos` -/

theorem wild_nil (ci : Bool) (n : List Nat) : wild ci [] n = n.isEmpty := by
  cases n <;> simp [wild]

theorem wild_cons_nil (ci : Bool) (p : Nat) (ps : List Nat) : wild ci (p :: ps) [] = (isWild p && wild ci ps []) := by
  rw [wild]; rfl

theorem wild_star (ci : Bool) (ps : List Nat) (c : Nat) (cs : List Nat) :
    wild ci (star :: ps) (c :: cs) = (wild ci ps (c :: cs) || wild ci (star :: ps) cs) := by
  rw [wild, if_pos rfl]

theorem wild_pct (ci : Bool) (ps : List Nat) (c : Nat) (cs : List Nat) :
    wild ci (pct :: ps) (c :: cs) = (wild ci ps (c :: cs) || (c != delim && wild ci (pct :: ps) cs)) := by
  rw [wild, if_neg (by decide), if_pos rfl]

theorem wild_lit (ci : Bool) {p : Nat} (ps : List Nat) (c : Nat) (cs : List Nat) (h : isWild p = false) :
    wild ci (p :: ps) (c :: cs) = ((if ci then upper p == upper c else p == c) && wild ci ps cs) := by
  have h' : ¬ p = star ∧ ¬ p = pct := by simpa [isWild] using h
  rw [wild, if_neg h'.1, if_neg h'.2]

/-- `*` matches every name — whatever characters it contains (newline included) -/
theorem C11_star_all (ci : Bool) : ∀ (n : Name), wild ci [star] n = true
  | [] => by rw [wild_cons_nil, wild_nil]; rfl
  | c :: cs => by rw [wild_star, C11_star_all ci cs, Bool.or_true]

/-- `%` matches exactly the names without a hierarchy delimiter -/
theorem C11_pct (ci : Bool) : ∀ (n : Name), wild ci [pct] n = true ↔ delim ∉ n
  | [] => by rw [wild_cons_nil, wild_nil]; simp [isWild]
  | c :: cs => by
    rw [wild_pct, wild_nil]
    simp [C11_pct ci cs, @eq_comm _ delim c]

/-- a pattern without wildcards matches exactly itself: `abc` does not match `abc` followed by a newline -/
theorem C11_literal : ∀ (p n : Name), (∀ c ∈ p, c ≠ star ∧ c ≠ pct) → (wild false p n = true ↔ p = n) := by
  intro p
  induction p with
  | nil =>
    intro n _
    rw [wild_nil]
    cases n with
    | nil => exact ⟨fun _ => rfl, fun _ => rfl⟩
    | cons => exact ⟨nofun, nofun⟩
  | cons p ps ih =>
    intro n h
    have ⟨hp, hps⟩ := List.forall_mem_cons.1 h
    have hw : isWild p = false := by simp [isWild, hp]
    cases n with
    | nil =>
      rw [wild_cons_nil, hw]
      exact ⟨nofun, nofun⟩
    | cons c cs =>
      rw [wild_lit _ _ _ _ hw, Bool.and_eq_true, if_neg Bool.false_ne_true, beq_iff_eq, ih cs hps, List.cons.injEq]

/-- LIST returns exactly the entries (existing names and their missing superiors) that match -/
theorem C11_list (names : List Name) (ref pat : Name) (e : Entry) :
    e ∈ listMatching names ref pat ↔
      e ∈ entries names ∧ (if e.name = inbox then wild true (ref ++ pat) inbox = true
                           else wild false (ref ++ pat) e.name = true) := by
  unfold listMatching
  by_cases h : e.name = inbox <;> simp [h]

theorem rename_cases (s : NS) (f t : Name) :
    rename s f t = (s, .no) ∨
    (normName t ≠ inbox ∧ s.node (normName f) = true ∧ s.node (normName t) = false ∧
      rename s f t =
        (if normName f = inbox then
          { s with boxes := s.boxes ++ [(normName t, s.inboxId)], inboxId := s.fresh, fresh := s.fresh + 1 }
        else
          { s with boxes := s.boxes.filter (fun b => !isUnder (normName f) b.1) ++
              (s.boxes.filter (fun b => isUnder (normName f) b.1)).map (fun b =>
                (normName t ++ b.1.drop (normName f).length, b.2)) }, .ok)) := by
  fun_cases rename s f t with
  | case1 | case2 | case3 => exact .inl rfl     -- onto INBOX, from a missing name, onto an existing one
  | case4 _ _ ht hf hn hi =>                    -- INBOX is renamed (the blanks are the normalised names `f`, `t`)
    rw [Bool.not_eq_true, Bool.not_eq_false'] at hf
    exact .inr ⟨ht, hf, Bool.eq_false_iff.2 hn, by rw [if_pos hi]⟩
  | case5 _ _ ht hf hn _ _ _ hi =>              -- any other name (further blanks: `moved`, `kept`, `renamed`)
    rw [Bool.not_eq_true, Bool.not_eq_false'] at hf
    exact .inr ⟨ht, hf, Bool.eq_false_iff.2 hn, by rw [if_neg hi]⟩

/-- INBOX can be neither created, deleted nor overwritten, in any spelling of its case -/
theorem C11_inbox_guard (s : NS) (n f : Name) (h : n.map upper = inbox) :
    create s n = (s, .no) ∧ delete s n = (s, .no) ∧ rename s f n = (s, .no) := by
  simp [create, delete, rename, normName, h]

/-- failures change nothing -/
theorem C11_errors_unchanged (s : NS) (n f t : Name) :
    ((create s n).2 = .no → (create s n).1 = s) ∧
    ((delete s n).2 = .no → (delete s n).1 = s) ∧
    ((rename s f t).2 = .no → (rename s f t).1 = s) := by
  -- each branch of the three either returns `s` with NO or answers OK
  refine ⟨?_, ?_, ?_⟩
  · fun_cases create s n with
    | case1 | case2 => exact fun _ => rfl
    | case3 => nofun
  · fun_cases delete s n with
    | case1 | case2 => exact fun _ => rfl
    | case3 => nofun
  · fun_cases rename s f t with
    | case1 | case2 | case3 => exact fun _ => rfl
    | case4 | case5 => nofun

/-- creating an existing name, deleting or renaming a missing one is refused -/
theorem C11_conflicts (s : NS) (n t : Name) (hn : normName n ≠ inbox) :
    (s.has (normName n) = true → create s n = (s, .no)) ∧
    (s.has (normName n) = false → delete s n = (s, .no)) ∧
    (s.node (normName n) = false → rename s n t = (s, .no)) := by
  refine ⟨fun h => ?_, fun h => ?_, fun h => ?_⟩
  · simp [create, hn, h]
  · simp [delete, hn, h]
  · exact (rename_cases s n t).resolve_right fun h' => by rw [h] at h'; cases h'.2.1

/-- RENAME moves the mailbox and every inferior with its mailbox *object* (hence its messages, UIDs and
UIDVALIDITY), and touches nothing else -/
theorem C11_rename (s : NS) (f t : Name) (hf : normName f ≠ inbox) (hok : (rename s f t).2 = .ok) :
    (∀ b ∈ s.boxes, isUnder (normName f) b.1 = true →
        (normName t ++ b.1.drop (normName f).length, b.2) ∈ (rename s f t).1.boxes) ∧
    (∀ b ∈ s.boxes, isUnder (normName f) b.1 = false → b ∈ (rename s f t).1.boxes) ∧
    (rename s f t).1.inboxId = s.inboxId := by
  rcases rename_cases s f t with h | ⟨_, _, _, h⟩
  · rw [h] at hok; cases hok
  · rw [h, if_neg hf]
    refine ⟨fun b hb hu => ?_, fun b hb hu => ?_, rfl⟩
    · exact List.mem_append_right _ (List.mem_map.2 ⟨b, List.mem_filter.2 ⟨hb, hu⟩, rfl⟩)
    · exact List.mem_append_left _ (List.mem_filter.2 ⟨hb, by rw [hu]; rfl⟩)

/-- renaming INBOX leaves a fresh, different (hence empty) INBOX behind, moves the old object, and leaves every
other mailbox — the inferiors of INBOX included — where it was -/
theorem C11_rename_inbox (s : NS) (t : Name) (hok : (rename s inbox t).2 = .ok) :
    (rename s inbox t).1.inboxId = s.fresh ∧ (normName t, s.inboxId) ∈ (rename s inbox t).1.boxes ∧
    (∀ b ∈ s.boxes, b ∈ (rename s inbox t).1.boxes) := by
  rcases rename_cases s inbox t with h | ⟨_, _, _, h⟩
  · rw [h] at hok; cases hok
  · rw [h, if_pos (by decide)]
    exact ⟨rfl, List.mem_append_right _ (List.mem_singleton.2 rfl), fun b hb => List.mem_append_left _ hb⟩

/-- non-vacuity on the shapes on which the code as found failed: a literal pattern does not match the name followed by a
newline; `*` matches a name containing a newline -/
example : wild false [97, 98, 99] [97, 98, 99, 10] = false ∧ wild false [star] [97, 10, 98] = true :=
  ⟨Bool.eq_false_iff.2 fun h => absurd ((C11_literal _ _ (by decide)).1 h) (by decide), C11_star_all false _⟩

end Pymap.C11
