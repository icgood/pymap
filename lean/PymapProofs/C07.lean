import PymapProofs.Lemmas.Grammar
import PymapProofs.Lemmas.Wire
import PymapProofs.C18_number
/-!
# C07 — every response is well-formed IMAP (structural grammar)

Each thing the serialiser writes is skipped by the recogniser as one token: `wfFrom st tok (x ++ rest) = wfFrom st true rest`.
-/
namespace Pymap.C07
open Pymap.Grammar Pymap.Wire

theorem wfFrom_atom (st : List Nat) (tok : Bool) (s rest : List Nat) (hne : s ≠ []) (hb : ∀ b ∈ s, tokByte b = true) :
    wfFrom st tok (s ++ rest) = wfFrom st true rest := by
  induction s generalizing tok with
  | nil => exact absurd rfl hne
  | cons b s ih =>
    have ⟨hb, hs⟩ := List.forall_mem_cons.1 hb
    rw [List.cons_append, wfFrom_tok st tok _ hb]
    cases s with
    | nil => rfl
    | cons c s => exact ih true (List.cons_ne_nil _ _) hs

theorem wfFrom_quoted (st : List Nat) (tok : Bool) (v rest : List Nat) (h : ∀ b ∈ v, b ≠ 13 ∧ b ≠ 10 ∧ b ≠ 0) :
    wfFrom st tok (serQuoted v ++ rest) = wfFrom st true rest := by
  rw [serQuoted, List.cons_append, List.append_assoc]
  exact wfFrom_dq st tok (skipQuoted_escape v rest h)

theorem wfFrom_literal (st : List Nat) (tok : Bool) (binary : Bool) (v rest : List Nat) :
    wfFrom st tok (serLiteral binary v ++ rest) = wfFrom st true rest := by
  have e : serLiteral binary v ++ rest =
      (if binary then [126] else []) ++ lc :: (digits v.length ++ rc :: 13 :: 10 :: (v ++ rest)) := by
    simp [serLiteral, lc, rc]
  have h (tok) : wfFrom st tok (lc :: (digits v.length ++ rc :: 13 :: 10 :: (v ++ rest))) = wfFrom st true rest := by
    rw [wfFrom_lc st tok (firstIsDigit_digits ..) (C18.C18_roundtrip_number _ _ rfl) (by simp), List.drop_left]
  rw [e]; cases binary
  · exact h tok
  · exact (wfFrom_tilde st tok _).trans (h false)

theorem wfFrom_str (st : List Nat) (tok : Bool) (binary : Bool) (v rest : List Nat) :
    wfFrom st tok (buildString binary v ++ rest) = wfFrom st true rest := by
  rcases buildString_cases binary v with h | h
  · rw [h.1, wfFrom_quoted st tok v rest h.2]
  · rw [h, wfFrom_literal]

mutual
def validItem : Item → Bool
  | .atom s => !s.isEmpty && s.all tokByte
  | .str _ _ => true
  | .group _ xs => validItems xs
def validItems : List Item → Bool
  | [] => true
  | x :: r => validItem x && validItems r
end

mutual
theorem wfFrom_item (st : List Nat) (rest : List Nat) : ∀ (x : Item) (tok : Bool), validItem x = true →
    wfFrom st tok (serItem x ++ rest) = wfFrom st true rest
  | .atom s, tok, hv => by
    simp only [validItem, Bool.and_eq_true, Bool.not_eq_true', List.isEmpty_eq_false_iff, List.all_eq_true] at hv
    exact wfFrom_atom st tok s rest hv.1 hv.2
  | .str b v, tok, _ => wfFrom_str st tok b v rest
  | .group sq xs, tok, hv => by
    rw [validItem] at hv
    rw [serItem, List.cons_append, List.append_assoc, List.singleton_append, wfFrom_open, wfFrom_items _ rest xs _ hv, wfFrom_close]
/-- the items of a group, up to (not including) the closing bracket `cl`; afterwards `tok` is whatever
lets `cl` follow: an empty group leaves `tok = false`, which `)`/`]` accept -/
theorem wfFrom_items (st : List Nat) (rest : List Nat) : ∀ (xs : List Item) (cl : Nat), validItems xs = true →
    wfFrom st false (serItems xs ++ cl :: rest) = wfFrom st (!xs.isEmpty) (cl :: rest)
  | [], _, _ => rfl
  | [x], cl, hv => by
    rw [validItems, validItems, Bool.and_true] at hv
    exact wfFrom_item st (cl :: rest) x false hv
  | x :: y :: r, cl, hv => by
    rw [validItems, Bool.and_eq_true] at hv
    rw [serItems, List.append_assoc, List.cons_append, wfFrom_item st _ x false hv.1, wfFrom_sp]
    exact wfFrom_items st rest (y :: r) cl hv.2
end

theorem scan_item : ∀ (x : Item), validItem x = true → ∀ (f : Nat) (st : List Nat) (tok : Bool) (rest : List Nat),
    (serItem x ++ rest).length < f → scan f st tok (serItem x ++ rest) = scan (rest.length + 1) st true rest :=
  fun x hv _ st tok rest hf => (scan_eq_wfFrom st tok hf).trans (wfFrom_item st rest x tok hv)

theorem scan_items : ∀ (xs : List Item), validItems xs = true → ∀ (f : Nat) (st : List Nat) (cl : Nat) (rest : List Nat),
    (serItems xs ++ cl :: rest).length < f →
    scan f st false (serItems xs ++ cl :: rest) = scan ((cl :: rest).length + 1) st (!xs.isEmpty) (cl :: rest) :=
  fun xs hv _ st cl rest hf => (scan_eq_wfFrom st false hf).trans (wfFrom_items st rest xs cl hv)

/-- **Well-formedness.** Every line pymap writes — whatever mailbox names, flags, header values, MIME
parameters or nesting shapes went into it — is accepted by the strict recogniser: balanced lists,
quoted strings free of CR/LF/NUL with only `\"`/`\\` escapes, literal lengths equal to the bytes that
follow, CRLF-terminated, no stray or trailing spaces. -/
theorem C07_wellformed (xs : List Item) (hne : xs ≠ []) (hv : validItems xs = true) : wf (serLine xs) = true := by
  show wfFrom [] false (serItems xs ++ 13 :: [10]) = true
  rw [wfFrom_items [] [10] xs 13 hv, wfFrom_crlf, List.isEmpty_eq_false_iff.2 hne]; rfl

/-- non-vacuity: `* L () "/" <a"␍b>` — the value with a quote and a bare CR goes out as a literal -/
example : wf (serLine [.atom [42], .atom [76], .group false [], .str false [47], .str false [97, 34, 13, 98]]) = true :=
  C07_wellformed _ (by simp) (by decide)

end Pymap.C07
