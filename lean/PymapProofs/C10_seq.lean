import PymapSpec.SeqSet
/-!
# C10 — `SequenceSet.flatten` is the RFC's meaning of a sequence set (also behind C13)
-/
namespace Pymap.C10
open Pymap.Seq Pymap.Spec

theorem mem_rangeIncl (a b n : Nat) : n ∈ rangeIncl a b ↔ a ≤ n ∧ n ≤ b := by
  simp only [rangeIncl, List.mem_map, List.mem_range]
  constructor
  · rintro ⟨k, hk, rfl⟩
    exact ⟨Nat.le_add_left a k, Nat.le_of_lt_succ (Nat.add_lt_of_lt_sub hk)⟩
  · rintro ⟨h1, h2⟩
    exact ⟨n - a, Nat.sub_lt_sub_right h1 (Nat.lt_succ_of_le h2), Nat.sub_add_cancel h1⟩

theorem mem_getRange (mx n : Nat) : ∀ e, n ∈ getRange mx e ↔ elemHas mx n e
  | .one .star => by
    show n ∈ [mx] ↔ n = mx ∧ n ≤ mx
    rw [List.mem_singleton]
    exact ⟨fun h => ⟨h, Nat.le_of_eq h⟩, And.left⟩
  | .one (.num k) => by
    show n ∈ (if k ≤ mx then [k] else []) ↔ n = k ∧ n ≤ mx
    by_cases hk : k ≤ mx
    · rw [if_pos hk, List.mem_singleton]
      exact ⟨fun h => ⟨h, h ▸ hk⟩, And.left⟩
    · rw [if_neg hk]
      exact ⟨nofun, fun ⟨h1, h2⟩ => absurd (h1 ▸ h2) hk⟩
  | .range l r => by
    simp only [getRange, elemHas]
    split
    · rw [mem_rangeIncl, Nat.le_min]
    · rename_i h
      exact ⟨nofun, fun ⟨h1, _, h3⟩ => absurd (Nat.le_trans h1 h3) h⟩

/-- `flatten` addresses exactly the messages the RFC says, for every shape of set:
single numbers, ranges in either order, `*`, `n:*` beyond the end, out-of-range members, duplicates. -/
theorem C10_seqset (mx : Nat) (s : List Elem) (n : Nat) :
    n ∈ flatten mx s ↔ seqSet mx s n := by
  simp only [flatten, List.mem_flatMap, seqSet, mem_getRange]

/-- non-vacuity: `5:*` on a 3-message mailbox addresses message 3; `*` on an empty one addresses nothing real -/
example : flatten 3 [.range (.num 5) .star] = [3] ∧ flatten 0 [.one .star] = [0] ∧
          flatten 4 [.range (.num 3) (.num 1), .one (.num 9)] = [1, 2, 3] := by decide

end Pymap.C10
