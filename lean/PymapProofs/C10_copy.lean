import PymapProofs.C10
/-!
# C10 — COPY and MOVE refine the plain reference model

`Session.copyCmd` (one `push` per addressed message that still exists, in view order) and `Session.moveSrc`
(one `pop` per moved message) against `Spec.copy` / `Spec.moveSrc`.
-/
namespace Pymap.C10
open Pymap.Sync Pymap.Mailbox Pymap.Seq Pymap.Session

theorem abs_copyInto (recent : Bool) : ∀ (ms : List Msg) (dst : MBox),
    abs (copyInto dst recent ms).1 = abs dst ++ Spec.renumber (dst.maxUid + 1) (ms.map toS) ∧
    (copyInto dst recent ms).2 = List.range' (dst.maxUid + 1) ms.length := by
  intro ms
  induction ms with
  | nil => exact fun dst => ⟨(List.append_nil _).symm, rfl⟩
  | cons m ms ih =>
    intro dst
    have ih := ih (push dst m.flags recent m.cid m.date).1
    rw [abs_push, show (push dst m.flags recent m.cid m.date).1.maxUid = dst.maxUid + 1 from rfl] at ih
    simp only [copyInto, ih, List.map_cons, Spec.renumber, List.length_cons, List.range'_succ, List.append_assoc]
    exact ⟨rfl, rfl⟩

theorem sourceMsgs_spec (b : MBox) (v : View) (hs : Synced b v) (byUid : Bool) (set : List Elem) :
    (sourceMsgs b v byUid set).map toS = Spec.addressedMsgs (abs b) byUid set := by
  unfold sourceMsgs
  rw [targets_uids hs]
  exact filterMap_find hs.nodup _ (fun s h => (filterIdx_sublist _ _ _).subset h)

/-- **COPY refines the reference model**: the destination gains a copy of every addressed message — same flags,
date and content — under the next UIDs, in order; nothing else in the destination changes -/
theorem C10_copy_refines (src dst : MBox) (v : View) (hs : Synced src v) (byUid : Bool) (set : List Elem) (recent : Bool) :
    abs (copyCmd src dst v byUid set recent).1 = Spec.copy (abs src) (abs dst) (dst.maxUid + 1) byUid set := by
  unfold copyCmd Spec.copy
  rw [(abs_copyInto recent _ dst).1, sourceMsgs_spec src v hs]

/-- the UIDs handed out by a COPY are consecutive from the destination's next UID (COPYUID's second set) -/
theorem C10_copy_uids (src dst : MBox) (v : View) (byUid : Bool) (set : List Elem) (recent : Bool) :
    (copyCmd src dst v byUid set recent).2 = List.range' (dst.maxUid + 1) (sourceMsgs src v byUid set).length :=
  (abs_copyInto recent _ dst).2

example : abs (copyCmd (push (push MBox.new [3] false 1 0).1 [] false 2 0).1 MBox.new
    ⟨[102, 101], [101, 102], [(101, 1), (102, 2)], [], []⟩ false [.range .star (.num 1)] false).1
    = [⟨101, [3], 1, 0⟩, ⟨102, [], 2, 0⟩] := by decide

theorem abs_pop (b : MBox) (u : Nat) : abs (pop b u).1 = (abs b).filter (fun m => m.uid != u) := by
  unfold pop
  cases h : b.find u with
  | none =>
    -- no message has uid `u`: the filter removes nothing
    refine (List.filter_eq_self.2 fun s hs => ?_).symm
    obtain ⟨m, hm, rfl⟩ := List.mem_map.1 hs
    simpa [toS] using List.find?_eq_none.1 h m hm
  | some m => simp only [abs, List.filter_map]; rfl

theorem abs_moveSrc (us : List Nat) (b : MBox) :
    abs (Session.moveSrc b us) = (abs b).filter (fun m => !(us.contains m.uid)) := by
  induction us generalizing b with
  | nil => exact (List.filter_eq_self.2 fun _ _ => rfl).symm
  | cons u us ih =>
    rw [show Session.moveSrc b (u :: us) = Session.moveSrc (pop b u).1 us from rfl, ih, abs_pop, List.filter_filter]
    refine List.filter_congr fun m _ => ?_
    simp only [List.contains_cons, Bool.not_or, bne, Bool.and_comm]

/-- **MOVE refines the reference model** on the source side: exactly the addressed messages leave, everything else
keeps its place (the destination side is `C10_copy_refines`) -/
theorem C10_move_refines (src : MBox) (v : View) (hs : Synced src v) (byUid : Bool) (set : List Elem) :
    abs (Session.moveSrc src ((sourceMsgs src v byUid set).map (·.uid))) = Spec.moveSrc (abs src) byUid set := by
  have hsrc : (sourceMsgs src v byUid set).map (·.uid) = (targets v byUid set).map (·.2) := by
    rw [targets_uids hs, ← sourceMsgs_spec src v hs, List.map_map]; rfl
  rw [abs_moveSrc, hsrc]
  refine (filterIdx_eq_filter _ _ _ 0 fun i m hm => ?_).symm
  rw [Nat.zero_add]
  congr 1
  rw [Bool.eq_iff_iff, List.contains_iff_mem]
  exact (mem_targets hs byUid set hm).symm

example : abs (Session.moveSrc (push (push MBox.new [3] false 1 0).1 [] false 2 0).1
    ((sourceMsgs (push (push MBox.new [3] false 1 0).1 [] false 2 0).1
      ⟨[102, 101], [101, 102], [(101, 1), (102, 2)], [], []⟩ true [.one (.num 101)]).map (·.uid)))
    = [⟨102, [], 2, 0⟩] := by decide

end Pymap.C10
