import PymapProofs.Lemmas.System
/-!
# C02 — cross-session convergence: no lost, phantom or stuck updates

Property theorems only.  Models: `ModSeq`, `Mailbox`, `System`.
-/
namespace Pymap.C02
open Pymap.Sync Pymap.System Pymap.Mailbox Pymap.ModSeq

/-- The change log keeps its shape under every update/expunge record. -/
theorem C02_log_inv {l : Log} (h : LogInv l) (uids : List Nat) (hnd : uids.Nodup) (k : Kind) :
    LogInv (set l uids k) := set_inv h uids hnd k

/-- `find_updated(p)` returns exactly the uids last changed at or after `p`, by kind of that last change. -/
theorem C02_log_complete {l : Log} (h : LogInv l) (p u : Nat) :
    (u ∈ (findUpdated l p).1 ↔ ∃ m, alookup u l.last = some m ∧ p ≤ m ∧ inU l m u) ∧
    (u ∈ (findUpdated l p).2 ↔ ∃ m, alookup u l.last = some m ∧ p ≤ m ∧ inE l m u) :=
  ⟨findUpdated_updates h p u, findUpdated_expunges h p u⟩

/-- **Convergence.**  After any history by any number of sessions, a NOOP (or any command that does not
hide expunges) by session `i` leaves its view — the UIDs it believes exist and the flags of each —
equal to the mailbox: nothing lost, nothing phantom, nothing stuck. -/
theorem C02_noop_converges (ops : List Op) (i : Nat) (wu : Bool) (x : Sess)
    (hx : (run Sys.init (ops ++ [.sync i false wu])).sess[i]? = some x) :
    let s := run Sys.init (ops ++ [.sync i false wu])
    (∀ u, u ∈ x.view.uids ↔ u ∈ s.box.uids) ∧
    (∀ u ∈ s.box.uids, x.view.flagsOf u = (s.box.find u).map (·.flags)) ∧
    x.view.pending = [] := by
  rw [run_concat] at hx ⊢
  exact (reachable_inv ops).sync_converges hx

/-- non-vacuity: session 1 stores on a message session 0 has just expunged; session 2 still converges -/
example :
    let s := run Sys.init [.append [] false 1 0, .append [] false 2 0, .select, .select, .select,
      .expunge 0 [101], .store 101 [3] 1, .sync 2 false false]
    (s.sess[2]?.map (·.view.uids)) = some [102] ∧ s.box.uids = [102] := by decide

end Pymap.C02
