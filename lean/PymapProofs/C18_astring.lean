import PymapModel.AString
import PymapProofs.C18_quoted
import PymapProofs.C18_framing
/-!
# C18 — a string argument means the same however it is spelled

`AStr.parse` (the model of `AString.parse` / `String.parse`) returns the same value and leaves the same rest for the atom, the
quoted and the `{n+}` literal spelling of a value, and refuses all three alike when the value is longer than the limit (D78).
-/
namespace Pymap.C18
open Pymap.Grammar Pymap.Wire Pymap.Framing Pymap.AStr

def firstIsAtom (r : List Nat) : Bool := match r with | b :: _ => isAtomChar b | [] => false

theorem spanAtom_eq : ∀ l, spanAtom l = (l.takeWhile isAtomChar, l.dropWhile isAtomChar) :=
  scanner_eq_span isAtomChar rfl fun _ _ => rfl

theorem spanAtom_append (v rest : List Nat) (hv : ∀ b ∈ v, isAtomChar b = true) (hr : firstIsAtom rest = false) :
    spanAtom (v ++ rest) = (v, rest) :=
  scanner_append spanAtom_eq hv (by cases rest <;> exact hr)

/-- the limit, as all three spellings apply it -/
theorem limit_ite (maxLen : Nat) (v : List Nat) {α : Type} (x : α) :
    (if v.length > maxLen then none else some x) = if v.length ≤ maxLen then some x else none := by
  simp only [GT.gt, ← Nat.not_le, ite_not]

theorem parse_atom (maxLen : Nat) (v rest : List Nat) (hne : v ≠ []) (hv : ∀ b ∈ v, isAtomChar b = true)
    (hr : firstIsAtom rest = false) :
    AStr.parse maxLen (asAtom v ++ rest) = if v.length ≤ maxLen then some (v, rest) else none := by
  obtain ⟨b, t, rfl⟩ := List.exists_cons_of_ne_nil hne
  have hb : b ≠ 32 := fun e => absurd (hv b (List.mem_cons_self ..)) (e ▸ by decide)
  rw [AStr.parse, asAtom, List.cons_append, skipSpaces_of_ne b _ hb, ← List.cons_append, spanAtom_append _ rest hv hr]
  exact limit_ite maxLen (b :: t) _

theorem parse_not_atom (maxLen : Nat) (b : Nat) (r : List Nat) (hb : isAtomChar b = false) (hs : b ≠ 32) :
    AStr.parse maxLen (b :: r) = parseString maxLen (b :: r) := by
  simp [AStr.parse, skipSpaces_of_ne b r hs, spanAtom, hb]

theorem parse_quoted (maxLen : Nat) (v rest : List Nat) (hv : ∀ b ∈ v, b ≠ 13 ∧ b ≠ 10) :
    AStr.parse maxLen (asQuoted v ++ rest) = if v.length ≤ maxLen then some (v, rest) else none := by
  have hq : parseQuoted (asQuoted v ++ rest) = some (v, rest) := C18_roundtrip_quoted v rest hv
  have hshape : asQuoted v ++ rest = dq :: (escape v ++ [dq] ++ rest) := rfl
  -- over the limit `String.parse` goes on to the literal parser, which refuses a `"`
  have hlit : parseLiteral maxLen (asQuoted v ++ rest) = none := by
    rw [hshape, parseLiteral, skipSpaces_of_ne dq _ (by decide)]; rfl
  have hp : AStr.parse maxLen (asQuoted v ++ rest) = parseString maxLen (asQuoted v ++ rest) := by
    rw [hshape]; exact parse_not_atom maxLen dq _ (by decide) (by decide)
  rw [hp, parseString, parseQuotedLim, hq, hlit]
  dsimp only
  rw [limit_ite]
  cases (if v.length ≤ maxLen then some (v, rest) else none) <;> rfl

theorem parse_literal (maxLen : Nat) (v rest : List Nat) :
    AStr.parse maxLen (asLiteral v ++ rest) = if v.length ≤ maxLen then some (v, rest) else none := by
  have hshape : asLiteral v ++ rest = 123 :: (digits v.length ++ (43 :: 125 :: 13 :: 10 :: (v ++ rest))) := by
    simp only [asLiteral, List.cons_append, List.nil_append, List.append_assoc]
  have h32 : (123 : Nat) ≠ 32 := by decide
  have hq : parseQuotedLim maxLen (123 :: (digits v.length ++ (43 :: 125 :: 13 :: 10 :: (v ++ rest)))) = none := by
    rw [parseQuotedLim, parseQuoted, skipSpaces_of_ne 123 _ h32]; rfl
  rw [hshape, parse_not_atom maxLen 123 _ (by decide) h32, ← limit_ite]
  simp only [parseString, hq, parseLiteral, skipSpaces_of_ne 123 _ h32,
    spanDigits_append _ (43 :: 125 :: 13 :: 10 :: (v ++ rest)) (digits_all_digit v.length) rfl, List.isEmpty_iff, digits_ne_nil,
    if_false, eol, readNum_digits_nil, List.length_append, Nat.not_lt.2 (Nat.le_add_right ..), List.take_left, List.drop_left]

/-- **Spelling independence of a string argument.** For every value and everything that may follow it, the spellings that
can carry the value — the atom when it consists of atom characters, the quoted string when it has no CR or LF, the `{n+}`
literal always — are parsed to the same value with the same rest, and all of them are refused when the value is longer than
the limit (the code as found refused only the literal: D78). -/
theorem C18_astring_spelling (maxLen : Nat) (v rest : List Nat) :
    AStr.parse maxLen (asLiteral v ++ rest) = (if v.length ≤ maxLen then some (v, rest) else none) ∧
    ((∀ b ∈ v, b ≠ 13 ∧ b ≠ 10) → AStr.parse maxLen (asQuoted v ++ rest) = AStr.parse maxLen (asLiteral v ++ rest)) ∧
    (v ≠ [] → (∀ b ∈ v, isAtomChar b = true) → firstIsAtom rest = false →
      AStr.parse maxLen (asAtom v ++ rest) = AStr.parse maxLen (asLiteral v ++ rest)) := by
  refine ⟨parse_literal maxLen v rest, ?_, ?_⟩
  · intro hv; rw [parse_quoted maxLen v rest hv, parse_literal]
  · intro hne hv hr; rw [parse_atom maxLen v rest hne hv hr, parse_literal]

/-- non-vacuity: `INBOX` in three spellings followed by ` x`, and a value over a limit of 3 -/
example : AStr.parse 4096 ([73, 78, 66, 79, 88] ++ [32, 120]) = some ([73, 78, 66, 79, 88], [32, 120]) ∧
    AStr.parse 4096 (asQuoted [73, 78, 66, 79, 88] ++ [32, 120]) = some ([73, 78, 66, 79, 88], [32, 120]) ∧
    AStr.parse 4096 (asLiteral [73, 78, 66, 79, 88] ++ [32, 120]) = some ([73, 78, 66, 79, 88], [32, 120]) ∧
    AStr.parse 3 ([73, 78, 66, 79, 88] ++ [32, 120]) = none :=
  -- `decide` cannot run `Wire.digits` (well-founded recursion), so the literal goes through its lemma
  ⟨by decide, by decide, (parse_literal 4096 [73, 78, 66, 79, 88] [32, 120]).trans (by decide), by decide⟩

end Pymap.C18
