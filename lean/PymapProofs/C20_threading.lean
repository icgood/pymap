import PymapProofs.Lemmas.TRWInv
/-!
# C20 for the threading read-write lock (what the maildir backend runs): exclusion, no deadlock, finite schedules

Threads are pre-empted between any two primitive operations.  The transition table `Move` and the invariant are in
`Lemmas/TRWInv.lean`.
-/

namespace Pymap.C20
open Pymap.TRW

/-- **Exclusion, threading lock.** Any number of threads, any programs, pre-emption between any two primitive operations:
while a thread is inside a write section no other thread is inside a write or a read section. -/
theorem C20_thread_exclusion (progs : List (List Bool)) (is : List Nat) (s : St)
    (hs : run (St.init progs) is = some s) (i j : Nat) (ti tj : Task)
    (hi : s.tasks[i]? = some ti) (hj : s.tasks[j]? = some tj) (hij : i ≠ j)
    (hw : ti.pc = .wIn) : tj.pc ≠ .wIn ∧ tj.pc ≠ .rIn :=
  ((Inv.init progs).run is hs).exclusion hi hj hij hw

/-- a thread is finished when it has no section left to run -/
def tfinished (t : Task) : Prop := t.pc = .idle ∧ t.prog = []

/-- what thread `t` needs in order to perform its next operation -/
def tcanRun (s : St) (t : Task) : Prop :=
  match t.pc with
  | .idle => t.prog ≠ []
  | .rWantR => s.r = false
  | .xWantR => s.r = false
  | .rWantW => s.w = false
  | .wWantW => s.w = false
  | _ => True

theorem tenabled_of {s : St} {j : Nat} {t : Task} (ht : s.tasks[j]? = some t) (hc : tcanRun s t) :
    ∃ s', step s j = some s' := by
  obtain ⟨pc, prog⟩ := t
  unfold step
  rw [ht]
  cases pc
  case idle =>
    rcases prog with _ | ⟨_ | _, _⟩
    · exact absurd rfl hc
    · exact ⟨_, rfl⟩
    · exact ⟨_, rfl⟩
  case rWantR | xWantR | rWantW | wWantW => exact ⟨_, if_neg (ne_true_of_eq_false hc)⟩
  case rHoldR | rInc | rIn | xDec | wIn => exact ⟨_, rfl⟩

theorem tcanRun_of_free {s : St} {t : Task} (hr : s.r = false) (hw : s.w = false) (hnf : ¬ tfinished t) : tcanRun s t := by
  obtain ⟨pc, prog⟩ := t
  cases pc with
  | idle => exact fun e => hnf ⟨rfl, e⟩
  | rWantR | xWantR => exact hr
  | rWantW | wWantW => exact hw
  | _ => trivial

theorem tcanRun_of_holdR {s : St} {t : Task} (hh : holdR t = true) (hw : t.pc = .rWantW → s.w = false) : tcanRun s t := by
  obtain ⟨pc, prog⟩ := t
  cases pc with
  | rWantW => exact hw rfl
  | rHoldR | rInc | xDec => trivial
  | _ => cases hh

/-- in a state with the invariant, not only a reachable one: if some thread is not finished, some thread can move -/
theorem tprogress {s : St} (h : Inv s) {i : Nat} {t : Task} (hi : s.tasks[i]? = some t) (hnf : ¬ tfinished t) :
    ∃ j s', step s j = some s' := by
  -- one of the threads counted by `p` can move, if all of them could
  have mover (p : Task → Bool) (hn : 1 ≤ s.tasks.countP p)
      (hp : ∀ (j : Nat) (t : Task), s.tasks[j]? = some t → p t = true → tcanRun s t) : ∃ j s', step s j = some s' := by
    obtain ⟨j, tj, hj, hpj⟩ := exists_of_countP p s.tasks hn
    exact ⟨j, tenabled_of hj (hp j tj hj hpj)⟩
  have hrl := h.rl
  have hwl := h.wl
  cases hw : s.w with
  | false =>
    cases hr : s.r with
    | false => exact ⟨i, tenabled_of hi (tcanRun_of_free hr hw hnf)⟩
    | true =>
      rw [hr, ind_true] at hrl
      exact mover holdR (Nat.le_of_eq hrl) fun _ _ _ hp => tcanRun_of_holdR hp fun _ => hw
  | true =>
    rw [hw, ind_true] at hwl
    by_cases hnw : 1 ≤ nW s
    · exact mover isW hnw fun _ t _ hp => by simp [isW] at hp; simp [tcanRun, hp]
    by_cases hni : 1 ≤ nInc s
    · exact mover isInc hni fun _ t _ hp => by simp [isInc] at hp; simp [tcanRun, hp]
    -- the readers hold `W`: one of them is inside and can go on, unless it wants `R` to leave and `R` is held;
    -- but then the holder of `R` is not waiting for `W` (it would have seen the counter at 0), so it can go on
    have hc : 1 ≤ s.counter := by
      rw [Nat.eq_zero_of_not_pos hnw, Nat.eq_zero_of_not_pos hni, Nat.zero_add, Nat.add_zero] at hwl
      exact hwl ▸ Nat.min_le_right 1 _
    have hin : 1 ≤ nIn s := h.cnt ▸ hc
    cases hr : s.r with
    | false =>
      refine mover inIn hin fun _ t _ hp => ?_
      simp [inIn] at hp
      rcases hp with (hp | hp) | hp <;> simp [tcanRun, hp, hr]
    | true =>
      rw [hr, ind_true] at hrl
      refine mover holdR (Nat.le_of_eq hrl) fun j t hj hp => tcanRun_of_holdR hp fun e => ?_
      exact absurd (h.ww (countP_pos_of_getElem isWW s.tasks j t hj (beq_of_eq e))) (Nat.ne_of_gt hc)

/-- **No deadlock, threading lock.** In every reachable state in which some thread is not finished, some thread can perform its
next primitive operation: whoever holds `R` is never waiting for anything but `W`, and while `W` is held the writer inside or a
reader between its increment and its decrement can go on. -/
theorem C20_thread_no_deadlock (progs : List (List Bool)) (is : List Nat) (s : St)
    (hs : run (St.init progs) is = some s) (i : Nat) (t : Task) (hi : s.tasks[i]? = some t) (hnf : ¬ tfinished t) :
    ∃ j s', step s j = some s' :=
  tprogress ((Inv.init progs).run is hs) hi hnf

/-- How much a thread still has to do; every step leads to a pc that weighs less (`step_tmu`): the pcs of a section count down
from 8 to 2, and being idle with `n` sections to go weighs `8 n + 1`, below the 2 of the last pc of the section before. -/
def tweight (t : Task) : Nat :=
  match t.pc with
  | .idle => 8 * t.prog.length + 1
  | .rWantR => 8 * t.prog.tail.length + 8
  | .rHoldR => 8 * t.prog.tail.length + 7
  | .rWantW => 8 * t.prog.tail.length + 6
  | .rInc => 8 * t.prog.tail.length + 5
  | .rIn => 8 * t.prog.tail.length + 4
  | .xWantR => 8 * t.prog.tail.length + 3
  | .xDec => 8 * t.prog.tail.length + 2
  | .wWantW => 8 * t.prog.tail.length + 8
  | .wIn => 8 * t.prog.tail.length + 2

def tmu (s : St) : Nat := (s.tasks.map tweight).sum

theorem step_tmu {s s' : St} (i : Nat) (hs : step s i = some s') : tmu s' < tmu s := by
  obtain ⟨ht, hm⟩ := step_move hs
  refine sum_map_set_lt tweight ht ?_
  cases hm with
  | startR | startW => exact Nat.lt_succ_self _  -- `8 * n + 8 < 8 * (n + 1) + 1`
  | _ => exact Nat.add_lt_add_left (by decide) _

/-- **Every schedule of the threading lock is finite**: at most eight primitive steps per section and one per thread. -/
theorem C20_thread_terminates (is : List Nat) (s s' : St) (hs : run s is = some s') : is.length + tmu s' ≤ tmu s :=
  isRun.length_le tmu (fun _ i _ => step_tmu i) hs

/-- non-vacuity: a writer inside, the first reader holding `R` and waiting for `W`, a second reader waiting for `R` -/
example : (run (St.init [[false], [true], [true]]) [0, 0, 1, 1, 1, 2]).map (fun s => (s.tasks.map (·.pc), s.r, s.w, s.counter)) =
    some ([.wIn, .rWantW, .rWantR], true, true, 0) := by decide

end Pymap.C20
