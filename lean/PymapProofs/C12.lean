import PymapModel.Session
/-!
# C12 — a read-only selection never changes the mailbox
-/
namespace Pymap.C12
open Pymap.Session Pymap.Mailbox Pymap.Sync

/-- **Frame.** Whatever message command a read-only selection issues, with whatever arguments, the
mailbox — messages, flags (including the implicit `\Seen` of a body fetch), stored `\Recent` bits, change
log — is exactly what it was. -/
theorem C12_frame (b : MBox) (v : View) (permitted : List Nat) (c : MCmd) : (exec b v true permitted c).1 = b := by
  cases c with
  | fetch byUid set setsSeen => cases setsSeen <;> rfl
  | _ => rfl

/-- a whole program -/
theorem C12_frame_program (b : MBox) (v : View) (permitted : List Nat) (cs : List MCmd) :
    cs.foldl (fun b c => (exec b v true permitted c).1) b = b := by
  induction cs with
  | nil => rfl
  | cons c cs ih => rw [List.foldl_cons, C12_frame]; exact ih

/-- STORE and EXPUNGE are refused with NO; CLOSE succeeds (and removes nothing, by `C12_frame`) -/
theorem C12_answers (b : MBox) (v : View) (permitted : List Nat) (byUid : Bool) (set : List Seq.Elem) (mode : Nat)
    (fs : List Nat) (us : Option (List Seq.Elem)) :
    (exec b v true permitted (.store byUid set mode fs)).2 = .no ∧
    (exec b v true permitted (.expunge us)).2 = .no ∧
    (exec b v true permitted .close).2 = .ok :=
  ⟨rfl, rfl, rfl⟩

end Pymap.C12
