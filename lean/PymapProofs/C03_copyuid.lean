import PymapModel.CopyUid
/-!
# C03 — the copy that COPYUID announces for a message is the copy of that message

`get_uids` hands out the requested UIDs in ascending order; the copies are numbered consecutively; sorting both sides independently then
pairs every source with its own copy.  The ascending order is what carries the statement: `copyuid_set_order_as_seeded` is the concrete
history of seeded change C03-g (the UIDs in the iteration order of a Python set).
-/
namespace Pymap.C03
open Pymap.CopyUid

/-! `sortNat` is a sort (so `announce` says what `SequenceSet.build` does for any order of copying, not only the ascending one) -/
theorem insertNat_perm (a : Nat) : ∀ l : List Nat, (insertNat a l).Perm (a :: l)
  | [] => List.Perm.refl _
  | b :: l => by
    unfold insertNat
    split
    · exact List.Perm.refl _
    · exact ((insertNat_perm a l).cons b).trans (List.Perm.swap a b l)

theorem sortNat_perm : ∀ l : List Nat, (sortNat l).Perm l
  | [] => List.Perm.refl _
  | a :: l => (insertNat_perm a (sortNat l)).trans ((sortNat_perm l).cons a)

theorem insertNat_sorted (a : Nat) : ∀ l : List Nat, l.Pairwise (· ≤ ·) → (insertNat a l).Pairwise (· ≤ ·)
  | [], _ => List.pairwise_singleton _ _
  | b :: l, h => by
    obtain ⟨hb, ht⟩ := List.pairwise_cons.1 h
    unfold insertNat
    split
    · rename_i hab
      exact List.pairwise_cons.2 ⟨List.forall_mem_cons.2 ⟨hab, fun c hc => Nat.le_trans hab (hb c hc)⟩, h⟩
    · rename_i hab
      refine List.pairwise_cons.2 ⟨fun c hc => ?_, insertNat_sorted a l ht⟩
      rcases List.mem_cons.1 ((insertNat_perm a l).mem_iff.1 hc) with rfl | hc
      · exact Nat.le_of_not_le hab
      · exact hb c hc

theorem C03_sortNat_sorted : ∀ l : List Nat, (sortNat l).Pairwise (· ≤ ·)
  | [] => List.Pairwise.nil
  | a :: l => insertNat_sorted a _ (C03_sortNat_sorted l)

/-- an ascending list is its own sort: it is a sorted permutation of itself, and there is only one -/
theorem sortNat_of_le {l : List Nat} (h : l.Pairwise (· ≤ ·)) : sortNat l = l :=
  (sortNat_perm l).eq_of_pairwise (fun _ _ _ _ => Nat.le_antisymm) (C03_sortNat_sorted l) h

theorem announce_of_le {pairs : List (Nat × Nat)} (h1 : (pairs.map Prod.fst).Pairwise (· ≤ ·))
    (h2 : (pairs.map Prod.snd).Pairwise (· ≤ ·)) : announce pairs = pairs := by
  rw [announce, sortNat_of_le h1, sortNat_of_le h2, ← List.unzip_fst, ← List.unzip_snd, List.zip_unzip]

theorem map_fst_copyAll : ∀ (us : List Nat) (n : Nat), (copyAll us n).map Prod.fst = us
  | [], _ => rfl
  | u :: us, n => by simp [copyAll, map_fst_copyAll us (n + 1)]

theorem map_snd_copyAll : ∀ (us : List Nat) (n : Nat), (copyAll us n).map Prod.snd = List.range' n us.length
  | [], _ => rfl
  | u :: us, n => by simp [copyAll, map_snd_copyAll us (n + 1), List.range']

/-- **C03 (copies), pairing.**  When the messages are copied in ascending order of their UIDs, the pairs a client reads off COPYUID are
exactly the copies that were made: the UID announced for the copy of `u` holds `u`. -/
theorem C03_copyuid_pairs (uids : List Nat) (next : Nat) (h : uids.Pairwise (· < ·)) :
    announce (copyAll uids next) = copyAll uids next :=
  announce_of_le (by rw [map_fst_copyAll]; exact h.imp Nat.le_of_lt)
    (by rw [map_snd_copyAll]; exact List.pairwise_le_range')

/-- every requested message is announced, once, with its own copy -/
theorem C03_copyuid_mem (uids : List Nat) (next : Nat) (h : uids.Pairwise (· < ·)) (u d : Nat) :
    (u, d) ∈ announce (copyAll uids next) ↔ (u, d) ∈ copyAll uids next := by
  rw [C03_copyuid_pairs uids next h]

/-- non-vacuity, and the seeded history: four messages copied in the iteration order of the set {101,…,104} -/
example : announce (copyAll [101, 102, 103, 104] 7) = [(101, 7), (102, 8), (103, 9), (104, 10)] := by decide
theorem copyuid_set_order_as_seeded :
    (104, 101) ∈ copyAll [104, 101, 102, 103] 101 ∧ (104, 101) ∉ announce (copyAll [104, 101, 102, 103] 101) := by decide

end Pymap.C03
