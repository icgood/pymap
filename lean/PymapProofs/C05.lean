import PymapModel.Conn
/-!
# C05 — the connection state machine follows RFC 3501 §3 (with the C09 theorems about `Conn.step`, and `C12_readonly_refuses`)

`step` is `handle` behind two doors (`closed`, `gate`) with the error counter `count` on top.  `count` writes `bad` and
`closed` only, so whatever else one asks of `step` is asked of `handle`: `step_blind` for the state, `step_of_ne_bad` and
`step_resp_ne` for the response.
-/
namespace Pymap.C05
open Pymap.Conn

/-- acceptance depends only on whether the connection is authenticated / has a selection -/
theorem C05_state_only (s s' : St) (c : Cmd)
    (h1 : s.user.isSome = s'.user.isSome) (h2 : s.selected.isSome = s'.selected.isSome) :
    gate s c = gate s' c := by
  simp only [gate, ← Option.not_isSome, h1, h2]

/-- the gate, spelled out per command class -/
theorem C05_gate (s : St) (c : Cmd) (hc : c ≠ .invalid) :
    gate s c = true ↔
      (c.cls = .any) ∨ (c.cls = .nonauth ∧ s.user = none) ∨ (c.cls = .auth ∧ s.user.isSome) ∨
      (c.cls = .select ∧ s.user.isSome ∧ s.selected.isSome) := by
  unfold gate
  split
  · exact absurd rfl hc
  · cases c.cls <;> simp

/-- `count` writes the error counter and `closed` and nothing else, and the only response it changes is the BAD that reaches the limit -/
theorem count_cases (x : Bool) (r : St × Resp) : ∃ b cl, (count x r).1 = { r.1 with bad := b, closed := cl } ∧
    ((count x r).2 = r.2 ∨ (r.2 = .bad ∧ (count x r).2 = .badBye)) := by
  obtain ⟨st, resp⟩ := r
  cases x with
  | true => exact ⟨st.bad, st.closed, rfl, .inl rfl⟩
  | false =>
    cases resp with
    | bad =>
      rw [show count false (st, Resp.bad) = if st.bad + 1 ≥ badLimit then _ else _ from rfl]
      by_cases hb : st.bad + 1 ≥ badLimit
      · rw [if_pos hb]; exact ⟨_, true, rfl, .inr ⟨rfl, rfl⟩⟩
      · rw [if_neg hb]; exact ⟨_, st.closed, rfl, .inl rfl⟩
    | _ => exact ⟨0, st.closed, rfl, .inl rfl⟩

/-- an `f` that reads neither the error counter nor `closed` sees the state `count` was given -/
theorem count_blind {α : Type} (f : St → α) (x : Bool) (r : St × Resp)
    (hf : ∀ s b cl, f { s with bad := b, closed := cl } = f s := by intros; rfl) : f (count x r).1 = f r.1 := by
  obtain ⟨b, cl, h, -⟩ := count_cases x r
  rw [h]; exact hf ..

theorem count_ne (x : Bool) (r : St × Resp) (k : Resp) (h1 : k ≠ .bad) (h2 : k ≠ .badBye) (h : r.2 ≠ k) :
    (count x r).2 ≠ k := by
  obtain ⟨-, -, -, e | ⟨-, e⟩⟩ := count_cases x r <;> rw [e]
  · exact h
  · exact h2.symm

theorem step_of_ne_bad {s : St} {c : Cmd} (hc : s.closed = false) (hg : gate s c = true) (h : (handle s c).2 ≠ .bad) :
    step s c = ({ (handle s c).1 with bad := if viaException s c then (handle s c).1.bad else 0 }, (handle s c).2) := by
  rw [step, if_neg (by rw [hc]; nofun), core, if_pos hg]
  cases viaException s c with
  | true => rfl
  | false =>
    generalize handle s c = r at h ⊢
    obtain ⟨st, resp⟩ := r
    cases resp with
    | bad => exact absurd rfl h
    | _ => rfl

theorem step_blind {α : Type} (f : St → α) (s : St) (c : Cmd)
    (hf : ∀ s b cl, f { s with bad := b, closed := cl } = f s := by intros; rfl) :
    f (step s c).1 = f (if s.closed = false ∧ gate s c = true then (handle s c).1 else s) := by
  unfold step core
  cases s.closed <;> cases gate s c <;> simp [count_blind f _ _ hf]

theorem step_resp_ne {s : St} {c : Cmd} {k : Resp} (h1 : k ≠ .bad) (h2 : k ≠ .badBye) (h : (handle s c).2 ≠ k) :
    (step s c).2 ≠ k := by
  unfold step core
  split
  · exact fun e => h1 e.symm
  · apply count_ne _ _ _ h1 h2
    split
    · exact h
    · exact fun e => h1 e.symm

/-- a refused command changes neither who is logged in nor what is selected -/
theorem C05_refused_noop (s : St) (c : Cmd) (h : gate s c = false) :
    (step s c).1.user = s.user ∧ (step s c).1.selected = s.selected := by
  rw [step_blind St.user, step_blind St.selected]; simp [h]

/-- SELECT/EXAMINE: success selects exactly that mailbox in the right mode, failure leaves none selected -/
theorem C05_select (s : St) (name : Nat) (ex : Bool) (be : Option Bool)
    (hc : s.closed = false) (hu : s.user.isSome) :
    (be = none → (step s (.selectCmd name ex be)).2 = .no ∧ (step s (.selectCmd name ex be)).1.selected = none) ∧
    (∀ ro, be = some ro → (step s (.selectCmd name ex be)).2 = .ok ∧
        (step s (.selectCmd name ex be)).1.selected = some (name, ex || ro)) := by
  have hg : gate s (.selectCmd name ex be) = true := hu
  rw [step_of_ne_bad hc hg (by cases be <;> simp [handle])]
  constructor
  · rintro rfl; exact ⟨rfl, rfl⟩
  · rintro ro rfl; exact ⟨rfl, rfl⟩

/-- CLOSE always succeeds (read-only or not) and deselects -/
theorem C05_close (s : St) (hc : s.closed = false) (hu : s.user.isSome) (hs : s.selected.isSome) :
    (step s .close).2 = .ok ∧ (step s .close).1.selected = none := by
  rw [step_of_ne_bad hc (by simp [gate, Cmd.cls, hu, hs]) (by simp [handle])]; exact ⟨rfl, rfl⟩

/-- LOGOUT always ends with BYE then OK and closes -/
theorem C05_logout (s : St) (hc : s.closed = false) :
    (step s .logout).2 = .byeOk ∧ (step s .logout).1.closed = true := by
  rw [step_of_ne_bad hc rfl (by simp [handle])]; exact ⟨rfl, rfl⟩

/-- a mutating message command inside a read-only selection is answered NO (C12) -/
theorem C12_readonly_refuses (s : St) (name : Nat) (ok : Bool) (hc : s.closed = false) (hu : s.user.isSome)
    (hs : s.selected = some (name, true)) :
    (step s (.msgCmd true ok)).2 = .no := by
  have hh : handle s (.msgCmd true ok) = (s, .no) := by simp [handle, hs]
  rw [step_of_ne_bad hc (by simp [gate, Cmd.cls, hu, hs]) (by rw [hh]; nofun), hh]

theorem handle_user (s : St) (c : Cmd) :
    (handle s c).1.user = s.user ∨
      ∃ u, (handle s c).1.user = some u ∧ (c = .login (some u) ∨ c = .authenticate true true (some u)) := by
  -- two branches of `handle` write `user`: the LOGIN and the AUTHENTICATE that the backend accepts
  fun_cases handle s c with
  | case8 => exact .inr ⟨_, rfl, .inl rfl⟩       -- `.login (some u)` while LOGIN is not disabled
  | case12 o e ho he =>                          -- `.authenticate o e (some u)` with `o` and `e` both true
    cases o with
    | false => exact absurd rfl ho
    | true =>
      cases e with
      | false => nomatch he
      | true => exact .inr ⟨_, rfl, .inr rfl⟩
  | _ => exact .inl rfl

/-- the identity changes only from `none`, and only to the one an accepted LOGIN or AUTHENTICATE names -/
theorem step_user_cases (s : St) (c : Cmd) :
    (step s c).1.user = s.user ∨ (s.user = none ∧
      ∃ u, (step s c).1.user = some u ∧ (c = .login (some u) ∨ c = .authenticate true true (some u))) := by
  rw [step_blind St.user]
  split
  · next h =>
    refine (handle_user s c).imp_right fun ⟨u, hu, hc⟩ => ⟨?_, u, hu, hc⟩
    rcases hc with rfl | rfl <;> simpa [gate, Cmd.cls] using h.2
  · exact Or.inl rfl

theorem run_user_cases (s : St) (cs : List Cmd) : (run s cs).user = s.user ∨ (s.user = none ∧
    ∃ u, (run s cs).user = some u ∧ ∃ c ∈ cs, c = .login (some u) ∨ c = .authenticate true true (some u)) := by
  induction cs generalizing s with
  | nil => exact .inl rfl
  | cons c cs ih =>
    rcases ih (step s c).1, step_user_cases s c with ⟨h | ⟨hn, u, hu, c', hc', g⟩, e | ⟨hs, u', hu', g'⟩⟩
    · exact .inl (h.trans e)
    · exact .inr ⟨hs, u', h.trans hu', c, List.mem_cons_self, g'⟩
    · exact .inr ⟨e ▸ hn, u, hu, c', List.mem_cons_of_mem _ hc', g⟩
    · rw [hn] at hu'; cases hu'

/-- once authenticated, the identity never changes (C09; D7 repaired) -/
theorem C09_no_reauth (s : St) (u : Nat) (hu : s.user = some u) (cs : List Cmd) : (run s cs).user = some u := by
  rcases run_user_cases s cs with h | ⟨hn, _⟩
  · rw [h, hu]
  · rw [hu] at hn; cases hn

/-- **soundness**: a connection is authenticated as `u` only if some LOGIN or SASL exchange in its
history presented credentials the backend accepted for `u` -/
theorem C09_sound (lo tls : Bool) (cs : List Cmd) (u : Nat) (h : (run (St.init lo tls) cs).user = some u) :
    ∃ c ∈ cs, c = .login (some u) ∨ c = .authenticate true true (some u) := by
  rcases run_user_cases (St.init lo tls) cs with h' | ⟨_, u', hu', hc⟩
  · rw [h'] at h; cases h
  · rw [h] at hu'; cases hu'; exact hc

/-- plain-text LOGIN is refused while LOGINDISABLED is advertised, whatever the password -/
theorem C09_logindisabled (s : St) (who : Option Nat) (hl : s.loginOff = true) :
    (step s (.login who)).1.user = s.user ∧ (step s (.login who)).2 ≠ .ok := by
  have hh : handle s (.login who) = (s, .no) := by simp [handle, hl]
  exact ⟨by rw [step_blind St.user, hh, ite_self], step_resp_ne nofun nofun (by rw [hh]; nofun)⟩

/-- **C09 (failed attempt keeps the state)**: a LOGIN or AUTHENTICATE that does not succeed — wrong
credentials (`who = none`), mechanism not on offer, broken exchange, LOGINDISABLED, or not allowed in
this state — leaves the connection exactly as authenticated (or not) and as selected as before, and is
never answered OK. -/
theorem C09_failed_keeps (s : St) (c : Cmd)
    (hc : c = .login none ∨ (∃ o e, c = .authenticate o e none) ∨ (∃ w, c = .authenticate false true w)
        ∨ (∃ o w, c = .authenticate o false w)) :
    (step s c).1.user = s.user ∧ (step s c).1.selected = s.selected ∧ (step s c).2 ≠ .ok ∧ (step s c).2 ≠ .byeOk := by
  -- the handler of every such command answers NO or BAD and leaves the state as it is
  have hh : handle s c = (s, .no) ∨ handle s c = (s, .bad) := by
    rcases hc with rfl | ⟨o, e, rfl⟩ | ⟨w, rfl⟩ | ⟨o, w, rfl⟩
    · exact .inl (ite_self _)
    · cases o
      · exact .inl rfl
      · cases e
        · exact .inr rfl
        · exact .inl rfl
    · exact .inl rfl
    · cases o
      · exact .inl rfl
      · exact .inr rfl
  have h1 : (handle s c).1 = s := by rcases hh with h | h <;> rw [h]
  have h2 : (handle s c).2 ≠ .ok ∧ (handle s c).2 ≠ .byeOk := by rcases hh with h | h <;> rw [h] <;> exact ⟨nofun, nofun⟩
  exact ⟨by rw [step_blind St.user, h1, ite_self], by rw [step_blind St.selected, h1, ite_self],
    step_resp_ne nofun nofun h2.1, step_resp_ne nofun nofun h2.2⟩

/-- non-vacuity: the two sequences on which the code as found misbehaved -/
example : (run (St.init false false) [.login (some 7), .authenticate true true (some 8)]).user = some 7 ∧
          (run (St.init false false) [.login (some 7), .selectCmd 1 true (some false), .close]).selected = none := by
  decide

/-- non-vacuity: a wrong password after a successful STARTTLS on a fresh connection -/
example : (run (St.init true true) [.starttls, .login none]).user = none := by decide

end Pymap.C05
