import PymapModel.Session
import PymapSpec.Imap
import PymapProofs.Lemmas.Mailbox
import PymapProofs.C10_seq
/-!
# C10 — message commands behave as the IMAP reference model says (refinement, single session)

The reference model addresses messages by position; the session resolves a set to uids through its view and
hands those to the mailbox primitives.  Where uids are unique the two agree: `targets_uids` says that a
synchronised view resolves a set to the uids of the messages the reference model addresses, `mem_filterIdx_uid`
that membership of a uid among those is the positional test.
-/
namespace Pymap.C10
open Pymap.Sync Pymap.Mailbox Pymap.Seq Pymap.Session

/-- the abstraction: what the reference model can see of a dict mailbox -/
def toS (m : Msg) : Spec.SMsg := ⟨m.uid, m.flags, m.cid, m.date⟩
def abs (b : MBox) : Spec.SBox := b.msgs.map toS

theorem applyOp_eq (mode : Nat) (o c : List Nat) : Session.applyOp mode o c = Spec.applyOp mode o c := rfl

theorem abs_uid (b : MBox) : (abs b).map (·.uid) = b.uids := by
  simp [abs, MBox.uids, toS, Function.comp_def]

theorem abs_push (b : MBox) (flags : List Nat) (recent : Bool) (cid date : Nat) :
    abs (push b flags recent cid date).1 = abs b ++ [⟨b.maxUid + 1, flags, cid, date⟩] := by
  simp [push, abs, toS]

theorem abs_updateFlags (b : MBox) (u : Nat) (f : List Nat → List Nat) :
    abs (updateFlags b u f) = (abs b).map (fun m => if m.uid = u then { m with flags := f m.flags } else m) := by
  unfold updateFlags abs
  split
  · rw [List.map_map, List.map_map]
    refine List.map_congr_left fun m _ => ?_
    exact apply_ite toS ..
  · -- no message has uid `u`: the map changes nothing
    rename_i hu
    rw [List.map_map]
    refine (List.map_congr_left fun m hm => ?_).symm
    have : m.uid ≠ u := fun e => hu (e ▸ List.mem_map.2 ⟨m, hm, rfl⟩)
    exact if_neg this

/-- a STORE loop over distinct uids = one map with a membership test -/
theorem abs_fold_update (f : List Nat → List Nat) : ∀ (us : List Nat) (b : MBox), us.Nodup →
    abs (us.foldl (fun b u => updateFlags b u f) b) =
      (abs b).map (fun m => if m.uid ∈ us then { m with flags := f m.flags } else m) := by
  intro us
  induction us with
  | nil => exact fun b _ => (List.map_id' _).symm
  | cons u us ih =>
    intro b hnd
    rw [List.nodup_cons] at hnd
    rw [List.foldl_cons, ih _ hnd.2, abs_updateFlags, List.map_map]
    refine List.map_congr_left fun m _ => ?_
    rw [Function.comp_apply]
    by_cases e : m.uid = u
    · rw [if_pos e, if_neg (show ¬ m.uid ∈ us from e ▸ hnd.1), if_pos (e ▸ List.mem_cons_self)]
    · rw [if_neg e]
      simp only [List.mem_cons, e, false_or]

theorem abs_delete (b : MBox) (us : List Nat) :
    abs (delete b us) = (abs b).filter (fun m => !(us.contains m.uid)) := by
  simp only [delete, abs, List.filter_map]; rfl

theorem filterMap_find {b : MBox} (hnd : b.uids.Nodup) : ∀ (l : Spec.SBox), (∀ s ∈ l, s ∈ abs b) →
    ((l.map (·.uid)).filterMap b.find).map toS = l := by
  intro l
  induction l with
  | nil => exact fun _ => rfl
  | cons s l ih =>
    intro h
    obtain ⟨m, hm, rfl⟩ := List.mem_map.1 (h s List.mem_cons_self)
    have : b.find (toS m).uid = some m := find_of_mem hnd hm
    rw [List.map_cons, List.filterMap_cons, this, List.map_cons, ih fun s hs => h s (List.mem_cons_of_mem _ hs)]

theorem mapIdx_eq_map (g : Nat → Spec.SMsg → Spec.SMsg) (h : Spec.SMsg → Spec.SMsg) :
    ∀ (l : Spec.SBox) (k : Nat), (∀ i m, l[i]? = some m → g (k + i) m = h m) → Spec.mapIdx g k l = l.map h := by
  intro l
  induction l with
  | nil => exact fun _ _ => rfl
  | cons x r ih =>
    intro k hg
    have h0 : g k x = h x := hg 0 x rfl
    have hr : ∀ i m, r[i]? = some m → g (k + 1 + i) m = h m := fun i m hm => by
      rw [Nat.add_assoc, Nat.add_comm 1 i]
      exact hg (i + 1) m hm
    rw [Spec.mapIdx, List.map_cons, h0, ih (k + 1) hr]

theorem filterIdx_eq_filter (p : Nat → Spec.SMsg → Bool) (q : Spec.SMsg → Bool) :
    ∀ (l : Spec.SBox) (k : Nat), (∀ i m, l[i]? = some m → p (k + i) m = q m) → Spec.filterIdx p k l = l.filter q := by
  intro l
  induction l with
  | nil => exact fun _ _ => rfl
  | cons x r ih =>
    intro k hp
    have h0 : p k x = q x := hp 0 x rfl
    have hr : ∀ i m, r[i]? = some m → p (k + 1 + i) m = q m := fun i m hm => by
      rw [Nat.add_assoc, Nat.add_comm 1 i]
      exact hp (i + 1) m hm
    rw [Spec.filterIdx, List.filter_cons, h0, ih (k + 1) hr]

theorem filterIdx_sublist (p : Nat → Spec.SMsg → Bool) : ∀ (l : Spec.SBox) (k : Nat), (Spec.filterIdx p k l).Sublist l := by
  intro l
  induction l with
  | nil => exact fun _ => List.Sublist.slnil
  | cons x r ih =>
    intro k
    rw [Spec.filterIdx]
    split
    · exact (ih (k + 1)).cons_cons x
    · exact (ih (k + 1)).cons x

/-- where uids are unique, a message's uid is among those of the selected messages iff its own position is selected -/
theorem mem_filterIdx_uid (p : Nat → Spec.SMsg → Bool) : ∀ (l : Spec.SBox) (k i : Nat) (m : Spec.SMsg),
    (l.map (·.uid)).Nodup → l[i]? = some m → (m.uid ∈ (Spec.filterIdx p k l).map (·.uid) ↔ p (k + i) m = true) := by
  intro l
  induction l with
  | nil => exact fun _ _ _ _ h => nomatch h
  | cons x r ih =>
    intro k i m hnd h
    rw [List.map_cons, List.nodup_cons] at hnd
    cases i with
    | zero =>
      obtain rfl : x = m := Option.some.inj h
      have hx : x.uid ∉ (Spec.filterIdx p (k + 1) r).map (·.uid) :=
        fun hc => hnd.1 (((filterIdx_sublist p r (k + 1)).map _).subset hc)
      rw [Spec.filterIdx]
      by_cases hp : p k x = true
      · rw [if_pos hp]
        exact iff_of_true List.mem_cons_self hp
      · rw [if_neg hp]
        exact iff_of_false hx hp
    | succ i =>
      have hne : m.uid ≠ x.uid := fun e => hnd.1 (e ▸ List.mem_map.2 ⟨m, List.mem_of_getElem? h, rfl⟩)
      rw [← Nat.add_assoc, Nat.add_right_comm, ← ih (k + 1) i m hnd.2 h, Spec.filterIdx]
      split
      · rw [List.map_cons, List.mem_cons, or_iff_right hne]
      · rfl

/-- the view of a synchronised session lists the mailbox's uids in order -/
structure Synced (b : MBox) (v : View) : Prop where
  sorted : v.sorted = b.uids
  uids   : ∀ u, u ∈ v.uids ↔ u ∈ b.uids
  len    : v.uids.length = b.uids.length
  nodup  : b.uids.Nodup

/-- `get_all`/`get_uids` walk `_sorted` with a counter: that is a positional selection -/
theorem zipIdx_filterMap_uid (c : Nat → Nat → Bool) (p : Nat → Spec.SMsg → Bool) : ∀ (l : Spec.SBox) (k : Nat),
    (∀ i m, l[i]? = some m → c m.uid (k + i + 1) = p (k + i) m) →
    (((l.map (·.uid)).zipIdx (k + 1)).filterMap (fun (u, s) => if c u s then some (s, u) else none)).map (·.2)
      = (Spec.filterIdx p k l).map (·.uid) := by
  intro l
  induction l with
  | nil => exact fun _ _ => rfl
  | cons x r ih =>
    intro k h
    have hr : ∀ i m, r[i]? = some m → c m.uid (k + 1 + i + 1) = p (k + 1 + i) m := fun i m hm => by
      rw [Nat.add_assoc k 1 i, Nat.add_comm 1 i]
      exact h (i + 1) m hm
    have h0 : c x.uid (k + 1) = p k x := h 0 x rfl
    rw [List.map_cons, List.zipIdx_cons, List.filterMap_cons, Spec.filterIdx]
    simp only [h0]
    cases p k x
    · exact ih (k + 1) hr
    · exact congrArg (x.uid :: ·) (ih (k + 1) hr)

/-- **a synchronised view resolves a set to the uids of the messages the reference model addresses**, in order -/
theorem targets_uids {b : MBox} {v : View} (hs : Synced b v) (byUid : Bool) (set : List Elem) :
    (targets v byUid set).map (·.2) = (Spec.addressedMsgs (abs b) byUid set).map (·.uid) := by
  have hlen : v.uids.length = (abs b).length := by rw [hs.len, ← abs_uid, List.length_map]
  unfold targets Spec.addressedMsgs getByUid getBySeq
  rw [hs.sorted, ← abs_uid]
  cases byUid with
  | false =>
    rw [if_neg Bool.false_ne_true]
    exact zipIdx_filterMap_uid (fun _ s => (flatten v.uids.length set).contains s) (Spec.addressed (abs b) false set) (abs b) 0
      (fun i m _ => by rw [hlen, Nat.zero_add]; rfl)
  | true =>
    rw [if_pos rfl]
    apply zipIdx_filterMap_uid (fun u _ => (flatten (((abs b).map (·.uid)).getLastD 0) set).contains u && v.uids.contains u)
      (Spec.addressed (abs b) true set) (abs b) 0
    intro i m hm
    have : m.uid ∈ v.uids := (hs.uids _).2 (abs_uid b ▸ List.mem_map.2 ⟨m, List.mem_of_getElem? hm, rfl⟩)
    rw [List.contains_iff_mem.2 this, Bool.and_true]
    rfl

theorem targets_nodup {b : MBox} {v : View} (hs : Synced b v) (byUid : Bool) (set : List Elem) :
    ((targets v byUid set).map (·.2)).Nodup := by
  rw [targets_uids hs]
  exact ((filterIdx_sublist _ _ _).map _).nodup (abs_uid b ▸ hs.nodup)

theorem mem_targets {b : MBox} {v : View} (hs : Synced b v) (byUid : Bool) (set : List Elem) {i : Nat} {m : Spec.SMsg}
    (hm : (abs b)[i]? = some m) :
    m.uid ∈ (targets v byUid set).map (·.2) ↔ Spec.addressed (abs b) byUid set i m = true := by
  rw [targets_uids hs, Spec.addressedMsgs]
  have := mem_filterIdx_uid (Spec.addressed (abs b) byUid set) (abs b) 0 i m (abs_uid b ▸ hs.nodup) hm
  rwa [Nat.zero_add] at this

/-- **STORE refines the reference model**: for every sequence/UID set (ranges, reversed ranges, `*`,
out-of-range, duplicates), every mode and every flag list, the mailbox after the command is the
reference model's. -/
theorem C10_store_refines (b : MBox) (v : View) (hs : Synced b v) (byUid : Bool) (set : List Elem)
    (mode : Nat) (fs permitted : List Nat) :
    abs (storeCmd b v byUid set mode fs permitted) = Spec.store (abs b) byUid set mode fs permitted := by
  unfold storeCmd Spec.store
  rw [abs_fold_update _ _ _ (targets_nodup hs byUid set)]
  symm
  apply mapIdx_eq_map
  intro i m hm
  simp only [Nat.zero_add, ← mem_targets hs byUid set hm]
  rfl

/-- APPEND adds exactly one message with the given flags, date and content, under the next UID -/
theorem C10_append_refines (b : MBox) (flags : List Nat) (recent : Bool) (cid date : Nat) :
    abs (appendCmd b flags recent cid date) = Spec.append (abs b) (b.maxUid + 1) flags cid date :=
  abs_push b flags recent cid date

/-- `\Recent` can never be set or cleared by STORE: the permitted flags never contain it, and what is
not permitted is dropped before the operation is applied -/
theorem C10_permitted (b : MBox) (v : View) (byUid : Bool) (set : List Elem) (mode : Nat) (fs permitted : List Nat) :
    storeCmd b v byUid set mode fs permitted =
      storeCmd b v byUid set mode (fs.filter (fun f => permitted.contains f)) permitted := by
  unfold storeCmd
  simp [List.filter_filter]

/-- EXPUNGE and UID EXPUNGE: of the addressed messages (all, without a set) exactly those flagged `\Deleted` go -/
theorem expunge_refines {b : MBox} {v : View} (hs : Synced b v) (uidSet : Option (List Elem)) :
    abs (expungeCmd b v uidSet) = Spec.uidExpunge (abs b) (uidSet.getD [.range (.num 1) .star]) := by
  unfold expungeCmd Spec.uidExpunge
  rw [abs_delete]
  symm
  apply filterIdx_eq_filter
  intro i s hs'
  obtain ⟨m, hm, rfl⟩ := List.mem_map.1 (List.mem_of_getElem? hs')
  have hfind : b.find (toS m).uid = some m := find_of_mem hs.nodup hm
  rw [Nat.zero_add]
  -- both sides say "addressed and flagged `\Deleted`"; `mem_targets` turns membership of the uid into the positional test
  congr 1
  rw [Bool.eq_iff_iff]
  simp only [Bool.and_eq_true, List.contains_iff_mem, List.mem_filter, hfind, mem_targets hs true _ hs']
  exact and_comm

theorem uidExpunge_all (l : Spec.SBox) (hpw : (l.map (·.uid)).Pairwise (· < ·)) (hpos : ∀ u ∈ l.map (·.uid), 1 ≤ u) :
    Spec.uidExpunge l [.range (.num 1) .star] = Spec.expunge l := by
  apply filterIdx_eq_filter
  intro i m hm
  have hu : m.uid ∈ l.map (·.uid) := List.mem_map.2 ⟨m, List.mem_of_getElem? hm, rfl⟩
  have : Spec.addressed l true [.range (.num 1) .star] i m = true := by
    simp only [Spec.addressed, if_true, List.contains_iff_mem, C10_seqset]
    have h1 : 1 ≤ m.uid := hpos _ hu
    have h2 : m.uid ≤ (l.map (·.uid)).getLastD 0 := le_getLastD _ hpw _ hu
    refine ⟨_, List.mem_singleton_self _, ?_⟩
    show min 1 _ ≤ m.uid ∧ m.uid ≤ max 1 _ ∧ m.uid ≤ _
    exact ⟨Nat.le_trans (Nat.min_le_left _ _) h1, Nat.le_trans h2 (Nat.le_max_right _ _), h2⟩
  rw [Nat.zero_add, this, Bool.and_true]

/-- **EXPUNGE refines the reference model**: exactly the messages flagged `\Deleted` go -/
theorem C10_expunge_refines (b : MBox) (v : View) (hs : Synced b v) (hpw : b.uids.Pairwise (· < ·))
    (hpos : ∀ u ∈ b.uids, 1 ≤ u) :
    abs (expungeCmd b v none) = Spec.expunge (abs b) := by
  rw [expunge_refines hs, Option.getD_none, uidExpunge_all] <;> rwa [abs_uid]

example : abs (storeCmd (push (push MBox.new [] false 1 0).1 [] false 2 0).1
    ⟨[102, 101], [101, 102], [(101, 1), (102, 2)], [], []⟩ false [.range .star (.num 2)] 1 [0, 9] [0, 1, 2, 3, 4])
    = [⟨101, [], 1, 0⟩, ⟨102, [0], 2, 0⟩] := by decide

end Pymap.C10
