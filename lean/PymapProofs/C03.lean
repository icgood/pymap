import PymapProofs.Lemmas.Mime
/-!
# C03 — message bytes are stored and returned verbatim (line index / slicing part)

Model: `PymapModel/Mime.lean` (with the repaired `get_raw`, defect D1).
-/
namespace Pymap.C03
open Pymap.Mime

/-- FETCH BODY[] / RFC822 returns exactly the appended bytes — for every byte string. -/
theorem C03_raw (data : List Nat) : (parse data).raw = data := by
  unfold parse
  simp only []
  rw [getRaw_two, splitLines_append, getRaw_chain data (findLines_chain data), slice_full]

/-- RFC822.SIZE is the length of the appended bytes. -/
theorem C03_size (data : List Nat) : (parse data).raw.length = data.length := by rw [C03_raw]

/-- BODY[HEADER] followed by BODY[TEXT] is the message. -/
theorem C03_header_text (data : List Nat) : (parse data).header ++ (parse data).body = data := by
  unfold parse
  simp only []
  have hch := findLines_chain data
  rw [← splitLines_append data (findLines data)] at hch
  obtain ⟨m, h1, h2⟩ := hch.split
  rw [getRaw_chain data h1, getRaw_chain data h2, slice_append data h1.le h2.le, slice_full]

/-- BODY[]<o.n> is the slice `b[o:o+n]`. -/
theorem C03_partial (data : List Nat) (o n : Nat) :
    getPartial (parse data).raw o (some n) = (data.drop o).take n := by
  rw [C03_raw]; rfl

/-- non-vacuity, on exactly the shapes on which the code as found lost a byte (header only, no separator,
whitespace-only last line) -/
example : (parse [83, 58, 32, 120, 13, 10]).raw = [83, 58, 32, 120, 13, 10] ∧
          (parse [83, 58, 32, 120, 13, 10]).body = [] ∧
          (parse [104, 105]).header = [] ∧ (parse [104, 105]).body = [104, 105] ∧
          (parse [97, 58, 98, 13, 10, 32]).raw = [97, 58, 98, 13, 10, 32] := by decide

end Pymap.C03
