import PymapModel.UidRW
/-!
# C04 — writers that read the UID list inside its lock never report one UID twice, under any interleaving
-/
namespace Pymap.C04
open Pymap.UidRW

/-- what holds of writer `i` in state `w`, given `next_uid` in the file and the holder of the lock -/
structure Ok (next : Nat) (holder : Option Nat) (i : Nat) (w : W) : Prop where
  holds : (w.pc = .locked ∨ w.pc = .read) → holder = some i
  fresh : w.pc = .read → w.loc = next
  below : w.pc = .done → w.uid < next

structure Inv (s : St) : Prop where
  ok    : ∀ i, Ok s.next s.holder i (s.ws i)
  apart : ∀ i j, i ≠ j → (s.ws i).pc = .done → (s.ws j).pc = .done → (s.ws i).uid ≠ (s.ws j).uid

theorem Inv.init (n : Nat) : Inv (init n) :=
  ⟨fun _ => ⟨nofun, nofun, nofun⟩, fun _ _ _ => nofun⟩

/-- the other writers' clauses carry over when `next_uid` does not decrease and nothing changes under a writer that is inside -/
theorem Inv.update {s : St} (h : Inv s) (i : Nat) (w : W) (next' : Nat) (holder' : Option Nat)
    (ok : Ok next' holder' i w) (new : w.pc = .done → ∀ j, (s.ws j).pc = .done → (s.ws j).uid ≠ w.uid)
    (le : s.next ≤ next')
    (others : ∀ j, j ≠ i → ((s.ws j).pc = .locked ∨ (s.ws j).pc = .read) → holder' = s.holder ∧ next' = s.next) :
    Inv ({ s with next := next', holder := holder' }.setW i w) := by
  have upd : ∀ j, ({ s with next := next', holder := holder' }.setW i w).ws j = w ∧ j = i ∨
      ({ s with next := next', holder := holder' }.setW i w).ws j = s.ws j ∧ j ≠ i := fun j =>
    if hji : j = i then Or.inl ⟨if_pos hji, hji⟩ else Or.inr ⟨if_neg hji, hji⟩
  constructor
  · intro j
    rcases upd j with ⟨e, rfl⟩ | ⟨e, hji⟩ <;> rw [e]
    · exact ok
    · exact ⟨fun hj => (others j hji hj).1.trans ((h.ok j).holds hj),
        fun hj => ((h.ok j).fresh hj).trans (others j hji (Or.inr hj)).2.symm,
        fun hj => Nat.lt_of_lt_of_le ((h.ok j).below hj) le⟩
  · intro j k hjk
    rcases upd j with ⟨ej, rfl⟩ | ⟨ej, hji⟩ <;> rcases upd k with ⟨ek, rfl⟩ | ⟨ek, hki⟩
    · exact absurd rfl hjk
    · rw [ej, ek]; exact fun hj hk e => new hj k hk e.symm
    · rw [ej, ek]; exact fun hj hk => new hk j hj
    · rw [ej, ek]; exact h.apart j k hjk

theorem Inv.alone {s : St} (h : Inv s) {i : Nat} (hh : s.holder = none ∨ s.holder = some i) (j : Nat) (hji : j ≠ i) :
    ¬ ((s.ws j).pc = .locked ∨ (s.ws j).pc = .read) := by
  intro hj
  have := (h.ok j).holds hj
  rcases hh with hh | hh <;> rw [hh] at this
  · cases this
  · exact hji (Option.some.inj this).symm

theorem Inv.step {s s' : St} (h : Inv s) (i : Nat) (hs : UidRW.step s i = some s') : Inv s' := by
  unfold UidRW.step at hs
  split at hs
  · -- take the lock
    rw [Option.ite_none_right_eq_some, Option.some.injEq] at hs
    obtain ⟨hh, rfl⟩ := hs
    exact h.update i _ s.next (some i) ⟨fun _ => rfl, nofun, nofun⟩ nofun
      (Nat.le_refl _) fun j hji hj => absurd hj (h.alone (Or.inl hh) j hji)
  · -- read the list, inside the lock
    rename_i hpc
    cases hs
    exact h.update i _ s.next s.holder ⟨fun _ => (h.ok i).holds (Or.inl hpc), fun _ => rfl, nofun⟩
      nofun (Nat.le_refl _) fun _ _ _ => ⟨rfl, rfl⟩
  · -- write the list and let the lock go: the UID given is the old `next_uid`, above all UIDs given before
    rename_i hpc
    cases hs
    rw [(h.ok i).fresh hpc]
    exact h.update i _ (s.next + 1) none
      ⟨nofun, nofun, fun _ => Nat.lt_succ_self _⟩
      (fun _ j hj => Nat.ne_of_lt ((h.ok j).below hj)) (Nat.le_succ _)
      fun j hji hj => absurd hj (h.alone (Or.inr ((h.ok i).holds (Or.inr hpc))) j hji)
  · cases hs

theorem Inv.run : ∀ (sched : List Nat) (s : St), Inv s → Inv (UidRW.run s sched)
  | [], _, h => h
  | i :: is, s, h => by
    unfold UidRW.run
    split
    · rename_i s' hs; exact Inv.run is s' (h.step i hs)
    · exact Inv.run is s h

/-- **C04 (maildir, contended UID list).**  Whatever the interleaving of any number of writers, two writers that have finished were given
different UIDs, and every UID given is below the `next_uid` in the file. -/
theorem C04_uidlist_no_reuse (n : Nat) (sched : List Nat) (i j : Nat) (hij : i ≠ j)
    (hi : ((run (init n) sched).ws i).pc = .done) (hj : ((run (init n) sched).ws j).pc = .done) :
    ((run (init n) sched).ws i).uid ≠ ((run (init n) sched).ws j).uid ∧ ((run (init n) sched).ws i).uid < (run (init n) sched).next :=
  ⟨(Inv.run sched _ (Inv.init n)).apart i j hij hi hj, ((Inv.run sched _ (Inv.init n)).ok i).below hi⟩

/-- mutual exclusion of the critical section, as a corollary -/
theorem C04_uidlist_exclusion (n : Nat) (sched : List Nat) (i j : Nat)
    (hi : ((run (init n) sched).ws i).pc = .locked ∨ ((run (init n) sched).ws i).pc = .read)
    (hj : ((run (init n) sched).ws j).pc = .locked ∨ ((run (init n) sched).ws j).pc = .read) : i = j := by
  have h := Inv.run sched _ (Inv.init n)
  have a := (h.ok i).holds hi
  have b := (h.ok j).holds hj
  rw [a] at b
  exact Option.some.inj b

/-- non-vacuity: two writers interleaved as far as the lock allows both finish, with UIDs 4 and 5 -/
example : let s := run (init 4) [0, 1, 0, 1, 0, 1, 1, 1]
    (s.ws 0).pc = .done ∧ (s.ws 1).pc = .done ∧ (s.ws 0).uid = 4 ∧ (s.ws 1).uid = 5 ∧ s.next = 6 := by decide

/-- the seeded order (C04-g: read, then lock): both writers read 4 while a third party holds the lock, and both report UID 4 -/
theorem uidlist_read_before_lock_as_seeded :
    let s := runReadFirst { init 4 with holder := some 9 } [0, 1]
    let s := runReadFirst { s with holder := none } [0, 0, 1, 1]
    (s.ws 0).pc = .done ∧ (s.ws 1).pc = .done ∧ (s.ws 0).uid = 4 ∧ (s.ws 1).uid = 4 := by decide

end Pymap.C04
