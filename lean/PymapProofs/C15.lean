import PymapModel.MaildirFS
import PymapProofs.Lemmas.Keys
/-!
# C15 — maildir state survives restart and crashes without UID damage (abstract filesystem)

Formulation: a history is a list of commands run one after the other; a crash point is "all of the
first commands, and any prefix of the system calls of the next one".  `DInv d acked` is what must hold
of the disk at every such point for the messages acknowledged so far.
-/
namespace Pymap.C15
open Pymap.MaildirFS

def fkeys (d : Disk) : List Nat := d.files.map (·.1)
def rkeys (u : UL) : List Nat := u.recs.map (·.2)
def ruids (u : UL) : List Nat := u.recs.map (·.1)

structure ULInv (u : UL) : Prop where
  lt  : ∀ x ∈ ruids u, x < u.next
  ndU : (ruids u).Nodup
  ndK : (rkeys u).Nodup

/-- `acked`: (uid, key) of every message whose APPEND was acknowledged and that was not expunged since -/
structure DInv (d : Disk) (acked : List (Nat × Nat)) : Prop where
  ul    : ULInv d.ul
  ndF   : (fkeys d).Nodup
  acked : ∀ a ∈ acked, a ∈ d.ul.recs ∧ a.2 ∈ fkeys d

def applyAll (d : Disk) (os : List FsOp) : Disk := os.foldl apply d

/-- acknowledged messages, minus the one the command in flight is expunging -/
def ackedDuring (acked : List (Nat × Nat)) : Cmd → List (Nat × Nat)
  | .expunge k => acked.filter (fun a => a.2 != k)
  | _ => acked

/-- the acknowledged messages once the command has completed on disk `d'`: an APPEND adds the record the UID list now has for its key -/
def ackedAfter (d' : Disk) (acked : List (Nat × Nat)) : Cmd → List (Nat × Nat)
  | .append k _ => match d'.ul.recs.find? (fun r => r.2 == k) with
    | some r => acked ++ [r]
    | none => acked
  | .expunge k => acked.filter (fun a => a.2 != k)
  | _ => acked

/-- the key of an APPEND is new to the folder (maildir keys are unique) -/
def fresh (d : Disk) : Cmd → Prop
  | .append k _ => k ∉ fkeys d ∧ k ∉ rkeys d.ul
  | _ => True

theorem fkeys_link (d : Disk) (k info : Nat) : fkeys (apply d (.link k info)) = fkeys d ++ [k] :=
  List.map_append

theorem fkeys_renameInfo (d : Disk) (k info : Nat) : fkeys (apply d (.renameInfo k info)) = fkeys d := by
  show (d.files.map (fun f => if f.1 = k then (k, info) else f)).map (·.1) = d.files.map (·.1)
  rw [List.map_map]; apply List.map_congr_left
  intro f _; simp only [Function.comp]; split
  · rename_i e; exact e.symm
  · rfl

theorem fkeys_removeFile (d : Disk) (k : Nat) : fkeys (apply d (.removeFile k)) = (fkeys d).filter (· != k) :=
  (List.filter_map (f := fun f : Nat × Nat => f.1) (p := (· != k))).symm

/-- a system call that touches neither the message files nor the UID list.  The two hypotheses quantify over every disk so that the
caller's `fun _ => rfl` is checked on a variable and not on `applyAll d …`, the disk a command has got to. -/
theorem DInv.inert {d : Disk} {acked : List (Nat × Nat)} (h : DInv d acked) (o : FsOp)
    (hf : ∀ d, fkeys (apply d o) = fkeys d) (hu : ∀ d, (apply d o).ul = d.ul) : DInv (apply d o) acked :=
  ⟨hu d ▸ h.ul, hf d ▸ h.ndF, fun a ha => hu d ▸ hf d ▸ h.acked a ha⟩

theorem DInv.link {d : Disk} {acked : List (Nat × Nat)} (h : DInv d acked) (k info : Nat) (hk : k ∉ fkeys d) :
    DInv (apply d (.link k info)) acked := by
  refine ⟨h.ul, nodup_map_concat h.ndF hk, fun a ha => ⟨(h.acked a ha).1, ?_⟩⟩
  rw [fkeys_link]
  exact List.mem_append_left _ (h.acked a ha).2

theorem ULInv.addRec {u : UL} (h : ULInv u) (k : Nat) (hk : k ∉ rkeys u) :
    ULInv { u with next := u.next + 1, recs := u.recs ++ [(u.next, k)] } where
  lt := by
    show ∀ x ∈ (u.recs ++ [(u.next, k)]).map (·.1), x < u.next + 1
    rw [List.map_append]
    exact List.forall_mem_append.2 ⟨fun x hx => Nat.lt_succ_of_lt (h.lt x hx), List.forall_mem_singleton.2 (Nat.lt_succ_self _)⟩
  ndU := nodup_map_concat h.ndU fun hx => Nat.lt_irrefl _ (h.lt _ hx)
  ndK := nodup_map_concat h.ndK hk

theorem ULInv.sublist {u : UL} (h : ULInv u) {recs : List (Nat × Nat)} (hs : recs.Sublist u.recs) :
    ULInv { u with recs := recs } :=
  ⟨fun x hx => h.lt x ((hs.map _).subset hx), h.ndU.sublist (hs.map _), h.ndK.sublist (hs.map _)⟩

theorem DInv.renameUL {d : Disk} {acked : List (Nat × Nat)} (h : DInv d acked) {u : UL} (hu : ULInv u)
    (hr : ∀ a ∈ acked, a ∈ u.recs) : DInv (apply d (.renameUL u)) acked :=
  ⟨hu, h.ndF, fun a ha => ⟨hr a ha, (h.acked a ha).2⟩⟩

theorem DInv.removeFile {d : Disk} {acked : List (Nat × Nat)} (h : DInv d acked) (k : Nat) :
    DInv (apply d (.removeFile k)) (acked.filter (fun a => a.2 != k)) := by
  refine ⟨h.ul, ?_, fun a ha => ?_⟩ <;> rw [fkeys_removeFile]
  · exact h.ndF.sublist List.filter_sublist
  · obtain ⟨ha, hk⟩ := List.mem_filter.1 ha
    exact ⟨(h.acked a ha).1, List.mem_filter.2 ⟨(h.acked a ha).2, hk⟩⟩

theorem DInv.mono {d : Disk} {a1 a2 : List (Nat × Nat)} (h : DInv d a1) (hs : ∀ x ∈ a2, x ∈ a1) : DInv d a2 :=
  ⟨h.ul, h.ndF, fun x hx => h.acked x (hs x hx)⟩

/-- `P` holds at every crash point of the system calls `os` issued on disk `d`: after each prefix of them -/
def Throughout (P : Disk → Prop) (d : Disk) (os : List FsOp) : Prop := ∀ n, P (applyAll d (os.take n))

theorem Throughout.nil {P : Disk → Prop} {d : Disk} (h : P d) : Throughout P d [] :=
  fun n => by rw [List.take_nil]; exact h

theorem Throughout.cons {P : Disk → Prop} {d : Disk} {o : FsOp} {os : List FsOp} (h : P d)
    (hs : Throughout P (apply d o) os) : Throughout P d (o :: os)
  | 0 => h
  | n + 1 => hs n

theorem Throughout.of_forall {P : Disk → Prop} : ∀ {os : List FsOp} {d : Disk}, P d →
    (∀ o ∈ os, ∀ d', P d' → P (apply d' o)) → Throughout P d os
  | [], _, h, _ => .nil h
  | o :: _, d, h, hs =>
    .cons h (of_forall (hs o List.mem_cons_self d h) fun o' ho' => hs o' (List.mem_cons_of_mem _ ho'))

/-- **every crash point inside a command is safe**: after any prefix of its system calls the disk still
holds, under their UIDs, all acknowledged messages (except the one being expunged) -/
theorem C15_prefix (d : Disk) (acked : List (Nat × Nat)) (c : Cmd) (h : DInv d acked) (hf : fresh d c) (n : Nat) :
    DInv (applyAll d ((ops d c).take n)) (ackedDuring acked c) := by
  revert n
  show Throughout (DInv · (ackedDuring acked c)) d (ops d c)
  cases c with
  | append k info =>
    have h₁ := h.inert (.createTmp k) (fun _ => rfl) (fun _ => rfl)
    have h₂ := h₁.link k info hf.1
    have h₃ := h₂.inert (.removeTmp k) (fun _ => rfl) (fun _ => rfl)
    have h₄ := h₃.inert .lockCreate (fun _ => rfl) (fun _ => rfl)
    have h₅ := h₄.renameUL (h.ul.addRec k hf.2) fun a ha => List.mem_append_left _ (h.acked a ha).1
    have h₆ := h₅.inert .lockRemove (fun _ => rfl) (fun _ => rfl)
    exact .cons h (.cons h₁ (.cons h₂ (.cons h₃ (.cons h₄ (.cons h₅ (.nil h₆))))))
  | expunge k => exact .cons (h.mono fun x hx => (List.mem_filter.1 hx).1) (.nil (h.removeFile k))
  | setFlags k info => exact .cons h (.nil (h.inert _ (fkeys_renameInfo · k info) (fun _ => rfl)))
  | cleanup =>
    have h₁ := h.inert .lockCreate (fun _ => rfl) (fun _ => rfl)
    have hu := h.ul.sublist (List.filter_sublist (p := fun r => d.files.any fun f => f.1 == r.2))
    have h₂ := h₁.renameUL hu fun a ha => List.mem_filter.2 ⟨(h.acked a ha).1, any_key_beq.2 (h.acked a ha).2⟩
    have h₃ := h₂.inert .lockRemove (fun _ => rfl) (fun _ => rfl)
    exact .cons h (.cons h₁ (.cons h₂ (.nil h₃)))

theorem adopt_next_ge (ks : List Nat) (u : UL) : u.next ≤ (adopt u ks).next := by
  fun_induction adopt u ks with
  | case1 => exact Nat.le_refl _
  | case2 u k ks ih => exact Nat.le_trans (Nat.le_succ _) ih

/-- adopting files that are not on record keeps what is on record and hands out only fresh UIDs -/
theorem adopt_spec (ks : List Nat) (u : UL) (h : ULInv u) (hnd : (rkeys u ++ ks).Nodup) :
    ULInv (adopt u ks) ∧ (∀ r ∈ u.recs, r ∈ (adopt u ks).recs) ∧ (adopt u ks).validity = u.validity := by
  fun_induction adopt u ks with
  | case1 => exact ⟨h, fun _ hr => hr, rfl⟩
  | case2 u k ks ih =>
    have hk : k ∉ rkeys u := fun hc => (List.nodup_append.1 hnd).2.2 k hc k List.mem_cons_self rfl
    have hnd' : (rkeys { u with next := u.next + 1, recs := u.recs ++ [(u.next, k)] } ++ ks).Nodup := by
      show ((u.recs ++ [(u.next, k)]).map (·.2) ++ ks).Nodup
      rw [List.map_append, List.append_assoc]; exact hnd
    obtain ⟨i₁, i₂, i₃⟩ := ih (h.addRec k hk) hnd'
    exact ⟨i₁, fun r hr => i₂ r (List.mem_append_left _ hr), i₃⟩

/-- **recovery serves what was acknowledged, under the same UID, and hands out only fresh UIDs** -/
theorem C15_recover (d : Disk) (acked : List (Nat × Nat)) (h : DInv d acked) :
    (∀ a ∈ acked, a ∈ (recover d).ul.recs ∧ a.2 ∈ fkeys (recover d)) ∧
    ULInv (recover d).ul ∧ d.ul.next ≤ (recover d).ul.next ∧ (recover d).ul.validity = d.ul.validity := by
  have hnd : (rkeys d.ul ++ (fkeys d).filter (fun k => !(d.ul.recs.any (fun r => r.2 == k)))).Nodup :=
    List.nodup_append.2 ⟨h.ul.ndK, h.ndF.sublist List.filter_sublist, fun k hk k' hk' e =>
      Bool.eq_false_iff.1 ((Bool.not_eq_true' _).mp (List.mem_filter.1 hk').2) (any_key_beq.2 (e ▸ hk))⟩
  obtain ⟨i₁, i₂, i₃⟩ := adopt_spec _ d.ul h.ul hnd
  exact ⟨fun a ha => ⟨i₂ a (h.acked a ha).1, (h.acked a ha).2⟩, i₁, adopt_next_ge _ _, i₃⟩

theorem DInv.ack {d : Disk} {acked : List (Nat × Nat)} (h : DInv d acked) {r : Nat × Nat} (hr : r ∈ d.ul.recs)
    (hf : r.2 ∈ fkeys d) : DInv d (acked ++ [r]) :=
  ⟨h.ul, h.ndF, List.forall_mem_append.2 ⟨h.acked, List.forall_mem_singleton.2 ⟨hr, hf⟩⟩⟩

/-- a completed command re-establishes the invariant for the new set of acknowledged messages -/
theorem C15_full (d : Disk) (acked : List (Nat × Nat)) (c : Cmd) (h : DInv d acked) (hf : fresh d c) :
    DInv (applyAll d (ops d c)) (ackedAfter (applyAll d (ops d c)) acked c) := by
  have hp := C15_prefix d acked c h hf (ops d c).length
  rw [List.take_length] at hp
  cases c with
  | append k info =>
    dsimp only [ackedAfter]
    split
    · rename_i r hfind
      have hk : r.2 = k := eq_of_beq (List.find?_some hfind :)
      have hf : k ∈ fkeys (applyAll d (ops d (.append k info))) :=
        List.mem_map.2 ⟨(k, info), List.mem_append_right _ (List.mem_singleton_self _), rfl⟩
      exact hp.ack (List.mem_of_find?_eq_some hfind) (hk ▸ hf)
    · exact hp
  | expunge k => exact hp
  | setFlags k info => exact hp
  | cleanup => exact hp

/-- run a history of completed commands -/
def runCmds : Disk × List (Nat × Nat) → List Cmd → Disk × List (Nat × Nat)
  | s, [] => s
  | (d, acked), c :: cs => runCmds (applyAll d (ops d c), ackedAfter (applyAll d (ops d c)) acked c) cs

/-- every APPEND of the history uses a key not present when it starts (maildir keys are unique) -/
def AllFresh : Disk × List (Nat × Nat) → List Cmd → Prop
  | _, [] => True
  | (d, acked), c :: cs => fresh d c ∧ AllFresh (applyAll d (ops d c), ackedAfter (applyAll d (ops d c)) acked c) cs

theorem AllFresh.snoc {c : Cmd} (cs : List Cmd) (s : Disk × List (Nat × Nat)) (h : AllFresh s (cs ++ [c])) :
    AllFresh s cs ∧ fresh (runCmds s cs).1 c := by
  induction cs generalizing s with
  | nil => exact ⟨trivial, h.1⟩
  | cons _ cs ih =>
    have ⟨i₁, i₂⟩ := ih _ h.2
    exact ⟨⟨h.1, i₁⟩, i₂⟩

theorem runCmds_inv : ∀ (cs : List Cmd) (d : Disk) (acked : List (Nat × Nat)), DInv d acked → AllFresh (d, acked) cs →
    DInv (runCmds (d, acked) cs).1 (runCmds (d, acked) cs).2
  | [], _, _, h, _ => h
  | c :: cs, d, acked, h, hf => runCmds_inv cs _ _ (C15_full d acked c h hf.1) hf.2

/-- **Crash anywhere in any history.** After any history of APPEND / EXPUNGE / STORE / CHECK and a
process kill between any two system calls of the next command, a new server on the same directory
serves every message whose APPEND had been acknowledged (and that was not expunged, nor is being
expunged), under the same UID and UIDVALIDITY; the UID list it writes assigns no UID twice and its
next-UID counter has not gone back. -/
theorem C15_crash_anywhere (v : Nat) (cs : List Cmd) (c : Cmd) (n : Nat)
    (hf : AllFresh (⟨[], [], ⟨v, 1, []⟩, false⟩, []) (cs ++ [c])) :
    let before := runCmds (⟨[], [], ⟨v, 1, []⟩, false⟩, []) cs
    let crashed := applyAll before.1 ((ops before.1 c).take n)
    (∀ a ∈ ackedDuring before.2 c, a ∈ (recover crashed).ul.recs ∧ a.2 ∈ fkeys (recover crashed)) ∧
    ULInv (recover crashed).ul ∧ (recover crashed).ul.validity = crashed.ul.validity ∧
    crashed.ul.next ≤ (recover crashed).ul.next := by
  intro before crashed
  have h0 : DInv ⟨[], [], ⟨v, 1, []⟩, false⟩ [] := ⟨⟨nofun, List.nodup_nil, List.nodup_nil⟩, List.nodup_nil, nofun⟩
  obtain ⟨hf1, hf2⟩ := AllFresh.snoc cs _ hf
  have hb := runCmds_inv cs _ _ h0 hf1
  have hc := C15_prefix before.1 before.2 c hb hf2 n
  obtain ⟨r1, r2, r3, r4⟩ := C15_recover crashed _ hc
  exact ⟨r1, r2, r4, r3⟩

example : (recover ⟨[(5, 0), (6, 0)], [], ⟨9, 3, [(1, 5)]⟩, true⟩).ul = ⟨9, 4, [(1, 5), (3, 6)]⟩ := by decide

/-!
### The next-UID counter of a folder never goes back (C15 / C04 on maildir)

Every UID a folder hands out is its counter at that moment (`ops`, `adopt`), every UID on record is below the counter (`ULInv.lt`),
and the counter never decreases — not in the middle of any command (any prefix of its system calls, i.e. any crash point) and not
when a restarted server adopts the files it finds.  So a UID that has once named a message is never given to another one, whether or
not the first is still there.  (The seeded changes C04-e / C15-e recompute the counter as "highest record + 1" when the list is read,
which lowers it as soon as the newest message has left: `ops` does not, and the trace tie shows the code does what `ops` says.)
-/

/-- **at every crash point of every command the counter is at least what it was before the command** -/
theorem C15_next_monotone (d : Disk) (c : Cmd) (n : Nat) : d.ul.next ≤ (applyAll d ((ops d c).take n)).ul.next := by
  refine Throughout.of_forall (P := fun d' => d.ul.next ≤ d'.ul.next) (Nat.le_refl _) (fun o ho d' hd' => ?_) n
  -- only `renameUL` touches the list, and the lists a command writes have the old counter or the next one
  cases o with
  | renameUL u =>
    cases c <;> simp [ops] at ho
    · subst ho; exact Nat.le_succ _
    · subst ho; exact Nat.le_refl _
  | _ => exact hd'

/-- **a restarted server never lowers the counter** -/
theorem C15_next_monotone_recover (d : Disk) : d.ul.next ≤ (recover d).ul.next :=
  adopt_next_ge _ _

/-- the UID an APPEND puts on record is the counter, hence above every UID on record (and, by monotonicity, above every UID
that was ever on record) -/
theorem C15_append_uid_fresh (d : Disk) (k info : Nat) (h : ULInv d.ul) :
    (applyAll d (ops d (.append k info))).ul.recs = d.ul.recs ++ [(d.ul.next, k)] ∧ ∀ x ∈ ruids d.ul, x < d.ul.next :=
  ⟨rfl, h.lt⟩

end Pymap.C15
