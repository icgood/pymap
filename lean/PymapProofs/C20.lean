import PymapProofs.Lemmas.RWProgress
/-!
# C20 — the asyncio read-write lock (repaired D25): exclusion, cancel-safety, no deadlock, finite schedules
-/
namespace Pymap.C20
open Pymap.RWLock

/-- **Exclusion.** For any number of tasks running any programs of read and write sections, under
every schedule and with cancellation of any task at any step: a writer's critical section never
overlaps another writer's or any reader's. -/
theorem C20_exclusion (progs : List (List Bool)) (ls : List Label) (s : St)
    (hs : run (St.init progs) ls = some s) (i j : Nat) (ti tj : Task)
    (hi : s.tasks[i]? = some ti) (hj : s.tasks[j]? = some tj) (hij : i ≠ j)
    (hw : ti.pc = .wIn) : tj.pc ≠ .wIn ∧ tj.pc ≠ .rIn :=
  ((Inv.init progs).run ls hs).exclusion hi hj hij hw

/-- **Cancellation-safe bookkeeping.** In every reachable state — whatever was cancelled, wherever —
the reader counter equals the number of tasks inside a read section, and the write mutex is held
exactly when somebody is inside a section.  (The lock as found leaks a count when the first reader
is cancelled while queued behind a writer; from then on readers bypass writers.) -/
theorem C20_cancel_safe (progs : List (List Bool)) (ls : List Label) (s : St)
    (hs : run (St.init progs) ls = some s) :
    s.counter = s.tasks.countP (fun t => t.pc == .rIn) ∧
    (s.w.locked = true ↔ (1 ≤ s.tasks.countP (fun t => t.pc == .wIn) ∨ 1 ≤ s.tasks.countP (fun t => t.pc == .rIn))) := by
  have h := (Inv.init progs).run ls hs
  exact ⟨h.cnt, h.wlk⟩

/-- non-vacuity: writer active, first reader queues behind it and is cancelled, second reader must wait -/
example :
    (run (St.init [[false], [true], [true]]) [.run 0, .run 1, .cancel 1, .run 1, .run 2]).map
      (fun s => (s.tasks.map (·.pc), s.counter)) = some ([.wIn, .dead, .rWaitW], 0) := by decide

/-- a task is finished when it was cancelled and has unwound, or has no section left to run -/
def finished (t : Task) : Prop := t.pc = .dead ∨ (t.pc = .idle ∧ t.prog = [])

/-- what task `j`, which is `t`, needs in order to take its next step -/
def canRun (s : St) (j : Nat) (t : Task) : Prop :=
  match t.pc with
  | .idle => t.prog ≠ []
  | .rWaitR => s.r.isWoken j = true
  | .rWaitW => s.w.isWoken j = true
  | .wWaitW => s.w.isWoken j = true
  | .dead => False
  | _ => True

theorem enabled_of {s : St} {j : Nat} {t : Task} (ht : s.tasks[j]? = some t) (hc : canRun s j t) :
    ∃ s', step s (.run j) = some s' := by
  obtain ⟨pc, ps⟩ := t
  dsimp only [step]
  rw [ht]
  cases pc
  case idle =>
    rcases ps with _ | ⟨_ | _, ps⟩
    · exact absurd rfl hc
    · cases s.w.canFast <;> exact ⟨_, rfl⟩
    · cases s.r.canFast <;> exact ⟨_, rfl⟩
  case rWaitR | rWaitW | wWaitW => exact ⟨_, if_pos hc⟩
  case dead => cases hc
  case rIn | wIn | cR | cRW | cW => exact ⟨_, rfl⟩

/-- Somebody is queued on a free mutex: its first waiter has been woken or cancelled, so it can run — given that a task
which `role` puts on this mutex waits for nothing else. -/
theorem progress_free {role : PC → Option Bool} {l : ALock} {s : St} (h : QInv role l s.tasks) (hl : l.locked = false)
    {j0 : Nat} {b0 : Bool} (hm : (j0, b0) ∈ keys l)
    (hrun : ∀ j t, role t.pc = some false ∨ (role t.pc = some true ∧ l.isWoken j = true) → canRun s j t) :
    ∃ j s', step s (.run j) = some s' := by
  cases hq : l.waiters with
  | nil => rw [keys, hq] at hm; cases hm
  | cons w rest =>
    obtain ⟨j, st⟩ := w
    obtain ⟨t, ht, hr⟩ := (h.mem j st.live).1 (by rw [keys, hq]; exact List.mem_cons_self)
    refine ⟨j, enabled_of ht (hrun j t ?_)⟩
    cases st with
    | pending => exact absurd rfl (h.head hl _ _ hq)
    | woken => exact .inr ⟨hr, by simp [ALock.isWoken, hq]⟩
    | cancelled | wokenCancelled => exact .inl hr

/-- In a state with both invariants, not only a reachable one: if some task is not finished, some task can run. -/
theorem progress {s : St} (hI : Inv s) (hP : PInv s) {i : Nat} {t : Task} (hi : s.tasks[i]? = some t) (hnf : ¬ finished t) :
    ∃ j s', step s (.run j) = some s' := by
  -- somebody waits for `W`: if it is held, whoever is inside a section can leave
  have wprog : ∀ j b, (j, b) ∈ keys s.w → ∃ j s', step s (.run j) = some s' := by
    intro j b hm
    cases hl : s.w.locked with
    | false =>
      refine progress_free hP.qw hl hm fun j t => ?_
      unfold canRun
      cases t.pc <;> simp [roleW]
    | true =>
      obtain ⟨j, ⟨pc, ps⟩, ht, e⟩ := hI.inside hl
      refine ⟨j, enabled_of ht ?_⟩
      rcases e with rfl | rfl <;> trivial
  -- somebody waits for `R`: if it is held, its holder waits for `W` or has been cancelled there
  have rprog : ∀ j b, (j, b) ∈ keys s.r → ∃ j s', step s (.run j) = some s' := by
    intro j b hm
    cases hl : s.r.locked with
    | false =>
      refine progress_free hP.qr hl hm fun j t => ?_
      unfold canRun
      cases t.pc <;> simp [roleR]
    | true =>
      obtain ⟨k, ⟨pc, ps⟩, hk, hp⟩ := hP.rl hl
      cases pc with
      | rWaitW => exact wprog k true ((hP.qw.mem_self hk true).2 rfl)
      | cRW => exact ⟨k, enabled_of hk trivial⟩
      | _ => cases hp
  obtain ⟨pc, ps⟩ := t
  cases pc with
  | idle => exact ⟨i, enabled_of hi fun e => hnf (.inr ⟨rfl, e⟩)⟩
  | rWaitR => exact rprog i true ((hP.qr.mem_self hi true).2 rfl)
  | rWaitW | wWaitW => exact wprog i true ((hP.qw.mem_self hi true).2 rfl)
  | rIn | wIn | cR | cRW | cW => exact ⟨i, enabled_of hi trivial⟩
  | dead => exact absurd (.inl rfl) hnf

/-- **No deadlock.** In every reachable state — any number of tasks, any programs, any schedule, any cancellations —
in which some task is not finished, some task can take its next step: a holder leaves its section (releases), a woken
waiter enters, a cancelled waiter unwinds, or an idle task starts its next section.  Together with `C20_terminates`
every maximal schedule ends with every task finished: the lock never deadlocks when every holder eventually releases. -/
theorem C20_no_deadlock (progs : List (List Bool)) (ls : List Label) (s : St)
    (hs : run (St.init progs) ls = some s) (i : Nat) (t : Task) (hi : s.tasks[i]? = some t) (hnf : ¬ finished t) :
    ∃ j s', step s (.run j) = some s' :=
  progress ((Inv.init progs).run ls hs) ((PInv.init progs).run ls hs) hi hnf

/-- How much a task still has to do; every step leads to a pc that weighs less (`weight_move`).  Queued for a section, woken for it and inside it weigh
5, 4, 3 (plus four for each section behind it); leaving it with `n` sections to go weighs `4 n + 2`, below the `4 n + 3` of being inside; a cancelled task has
one step left. -/
def weight (t : Task) : Nat :=
  match t.pc with
  | .dead => 0
  | .cR | .cRW | .cW => 1
  | .idle => 4 * t.prog.length + 2
  | .rWaitR => 4 * t.prog.tail.length + 5
  | .rWaitW => 4 * t.prog.tail.length + 4
  | .rIn => 4 * t.prog.tail.length + 3
  | .wWaitW => 4 * t.prog.tail.length + 5
  | .wIn => 4 * t.prog.tail.length + 3

def mu (s : St) : Nat := (s.tasks.map weight).sum

theorem weight_move {s : St} {i : Nat} {t t' : Task} {r' w' : ALock} {c' : Nat} (hm : Move s i t r' w' c' t') :
    weight t' < weight t := by
  cases hm with
  | startR _ ha | wokenR _ ha => cases ha <;> simp +arith only [weight, List.tail_cons, List.length_cons]
  | _ => simp +arith only [weight, List.tail_cons, List.length_cons]

theorem step_mu {s s' : St} (l : Label) (hs : step s l = some s') : mu s' < mu s := by
  obtain @⟨i, t, _, _, _, t', ht, hm⟩ := step_move hs
  exact sum_map_set_lt weight ht (weight_move hm)

/-- **Every schedule is finite.** A schedule — runs and cancellations in any order — is never longer than the work the
tasks started with (four steps per section and two per task): no task spins, and with `C20_no_deadlock` every schedule
that is continued as long as some task can run ends with every task finished. -/
theorem C20_terminates (ls : List Label) (s s' : St) (hs : run s ls = some s') : ls.length + mu s' ≤ mu s :=
  isRun.length_le mu (fun _ l _ => step_mu l) hs

/-- non-vacuity: a state with a writer inside, a reader holding `R` queued on `W`, and a second reader queued on `R` -/
example : (run (St.init [[false], [true], [true]]) [.run 0, .run 1, .run 2]).map (fun s => s.tasks.map (·.pc)) =
    some [.wIn, .rWaitW, .rWaitR] := by decide

end Pymap.C20
