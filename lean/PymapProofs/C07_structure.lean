import PymapModel.Structure
/-!
# C07 — ENVELOPE and BODYSTRUCTURE values follow their grammar

For every message structure — any nesting of multiparts and embedded messages, any number of addresses, parameters, with or
without Content-Disposition / language / location — what the server writes is an `envelope` / a `body` of RFC 3501 section 9.
-/
namespace Pymap.C07
open Pymap.Structure

theorem isParams_paramsT (n : Nat) : isParams (paramsT n) = true := by
  unfold paramsT; split
  · rfl
  · simp [isParams, isString, *]; omega

theorem isDsp_dspT (d : Option Nat) : isDsp (dspT d) = true := by
  cases d with
  | none => rfl
  | some n => simp [dspT, isDsp, isString, isParams_paramsT]

theorem extOk_extT (h : Hdr) : extOk (extT h) = true := by
  unfold extT extOk
  cases h.lang <;> cases h.loc <;> simp [isDsp_dspT, isLang, isNString]

theorem isAddrList_addrList (n : Nat) : isAddrList (addrList n) = true := by
  unfold addrList; split
  · rfl
  · simp [isAddrList, addr, isAddr, isNString, *]

/-- **ENVELOPE**: an address field is NIL or a non-empty list of four-field addresses, whatever the headers held -/
theorem C07_envelope (e : Env) : isEnvelope (renderEnv e) = true := by
  simp [renderEnv, isEnvelope, isNString, isAddrList_addrList]

theorem render_list (p : Part) : ∃ l, render p = .list l := by
  cases p <;> exact ⟨_, by rw [render]⟩

theorem tail_ok (h : Hdr) : (match (T.nil :: extT h) with | [] => true | md5 :: x => isNString md5 && extOk x) = true := by
  simp [isNString, extOk_extT]

mutual
/-- **BODYSTRUCTURE**: every part structure is rendered as a `body` -/
theorem C07_body : ∀ (p : Part), isBody (render p) = true
  | .basic h => by
    -- here and in the cases below the `show` is what `isBody` asks of a list of this shape
    rw [render]
    show (isParams (paramsT h.params) && isNString .nil && isNString .nil && isString (.str 0) && isNum .num &&
      (isNString .nil && extOk (extT h))) = true
    rw [isParams_paramsT, extOk_extT]
    rfl
  | .text h => by
    rw [render]
    show (isParams (paramsT h.params) && isNString .nil && isNString .nil && isString (.str 0) && isNum .num &&
      (isNum .num && (isNString .nil && extOk (extT h)))) = true
    rw [isParams_paramsT, extOk_extT]
    rfl
  | .msg h e inner => by
    obtain ⟨b, hb⟩ := render_list inner
    rw [render, hb]
    show (isParams (paramsT h.params) && isNString .nil && isNString .nil && isString (.str 0) && isNum .num &&
      (isEnvelope (renderEnv e) && isBody (.list b) && isNum .num && (isNString .nil && extOk (extT h)))) = true
    rw [isParams_paramsT, C07_envelope, ← hb, C07_body inner, extOk_extT]
    rfl
  | .multi h first rest => by
    obtain ⟨b, hb⟩ := render_list first
    rw [render, hb]
    show (isBody (.list b) && multiTail (renderAll rest ++ (T.str 0 :: paramsT h.params :: extT h))) = true
    rw [← hb, C07_body first, multiTail_renderAll rest h]
    rfl
theorem multiTail_renderAll : ∀ (ps : List Part) (h : Hdr),
    multiTail (renderAll ps ++ (T.str 0 :: paramsT h.params :: extT h)) = true
  | [], h => by
    show (isParams (paramsT h.params) && extOk (extT h)) = true
    rw [isParams_paramsT, extOk_extT]
    rfl
  | p :: r, h => by
    obtain ⟨b, hb⟩ := render_list p
    rw [renderAll, List.cons_append, hb]
    show (isBody (.list b) && multiTail (renderAll r ++ (T.str 0 :: paramsT h.params :: extT h))) = true
    rw [← hb, C07_body p, multiTail_renderAll r h]
    rfl
end

-- non-vacuity: a multipart holding a text part and an embedded message that holds a multipart
example : isBody (render (.multi ⟨1, some 1, true, false⟩ (.text ⟨0, none, false, false⟩)
    [.msg ⟨0, some 0, false, true⟩ ⟨1, 0, 0, 2, 0, 0⟩ (.multi ⟨2, none, false, false⟩ (.basic ⟨0, none, false, false⟩) [])])) = true := by
  decide
-- and the shapes the code as found wrote are rejected by the recogniser
example : isEnvelope (.list [.nil, .str 0, .nil, .nil, .nil, .list [], .nil, .nil, .nil, .nil]) = false := by decide
example : isBody (.list [.str 1, .str 0, .nil, .nil, .nil, .str 0, .num, .num, .nil, .str 0, .nil, .nil]) = false := by decide

end Pymap.C07
