import PymapModel.Search
import PymapProofs.C10_seq
/-!
# C13 — SEARCH returns exactly the matching messages
-/
namespace Pymap.C13
open Pymap.Search Pymap.Seq Pymap.Spec

/-- RFC 3501 §6.4.4, key by key, as a proposition (string keys: the oracle) -/
def sem (maxSeq maxUid : Nat) : Key → Msg → Prop
  | .all, _ => True
  | .seqset uid s, m => if uid then seqSet maxUid s m.uid else seqSet maxSeq s m.seq
  | .keyset ks, m => ∀ k ∈ ks, sem maxSeq maxUid k m
  | .or a b, m => sem maxSeq maxUid a m ∨ sem maxSeq maxUid b m
  | .not k, m => ¬ sem maxSeq maxUid k m
  | .flag f e, m => (f ∈ m.flags) ↔ e = true
  | .new_ r s, m => r ∈ m.flags ∧ s ∉ m.flags
  | .idate op d, m => cmpDate op m.idate d = true
  | .sdate op d, m => ∃ x, m.sdate = some x ∧ cmpDate op x d = true
  | .size larger n, m => if larger then m.size > n else m.size < n
  | .text id, m => m.oracle id = true

theorem critAll_eq_all (maxSeq maxUid : Nat) (m : Msg) : ∀ (ks : List Key),
    critAll maxSeq maxUid ks m = ks.all (fun k => crit maxSeq maxUid k m)
  | [] => by simp [critAll]
  | k :: ks => by simp [critAll, critAll_eq_all maxSeq maxUid m ks]

theorem crit_iff (maxSeq maxUid : Nat) : ∀ (k : Key) (m : Msg), crit maxSeq maxUid k m = true ↔ sem maxSeq maxUid k m := by
  intro k m
  -- `Key` is nested through `List`, so its recursor takes a second motive, for the list of a `keyset`
  induction k using Key.rec
    (motive_2 := fun ks => critAll maxSeq maxUid ks m = true ↔ ∀ k ∈ ks, sem maxSeq maxUid k m) with
  | all => simp [crit, sem]
  | seqset uid s => cases uid <;> simp [crit, sem, C10.C10_seqset]
  | keyset ks ih =>
    simp only [crit, sem]
    exact ih
  | or a b iha ihb => simp only [crit, sem, Bool.or_eq_true, iha, ihb]
  | not k ih => simp only [crit, sem, Bool.not_eq_true', ← ih, Bool.not_eq_true]
  | flag f e =>
    simp only [crit, sem]
    cases e <;> simp
  | new_ r s => simp [crit, sem]
  | idate op d => simp [crit, sem]
  | sdate op d =>
    simp only [crit, sem]
    cases m.sdate <;> simp
  | size larger n => cases larger <;> simp [crit, sem]
  | text id => simp [crit, sem]
  | nil => simp [critAll]
  | cons k ks ihk ihks => simp [critAll, ihk, ihks]

theorem critAll_iff (maxSeq maxUid : Nat) : ∀ (ks : List Key) (m : Msg),
    critAll maxSeq maxUid ks m = true ↔ ∀ k ∈ ks, sem maxSeq maxUid k m := by
  intro ks m
  rw [critAll_eq_all, List.all_eq_true]
  exact forall₂_congr fun k _ => crit_iff maxSeq maxUid k m

theorem topSeqSet_mem {ks : List Key} {uid : Bool} {s : List Elem} (h : topSeqSet ks = some (uid, s)) :
    Key.seqset uid s ∈ ks := by
  fun_induction topSeqSet ks with
  | case1 => simp at h
  | case2 uid' s' _ => simp at h; simp [h]
  | case3 k ks _ ih => exact List.mem_cons_of_mem _ (ih h)

/-- scanning only the first top-level set does not change the result of the conjunction -/
theorem C13_prefilter_sound (view : List Msg) (maxSeq maxUid : Nat) (ks : List Key) :
    search view maxSeq maxUid ks = view.filter (critAll maxSeq maxUid ks) := by
  unfold search
  cases h : topSeqSet ks with
  | none => rfl
  | some p =>
    -- the pre-filter is `crit` of a key of the conjunction, so the conjunction implies it
    simp only [List.filter_filter]
    refine List.filter_congr fun m _ => Bool.and_eq_left_iff_imp.2 fun hc => ?_
    rw [critAll_eq_all, List.all_eq_true] at hc
    simpa only [crit] using hc _ (topSeqSet_mem h)

/-- **Exactness.** SEARCH returns exactly the messages of the view that satisfy the program under the
RFC's semantics — conjunction of the top-level keys, OR, NOT, sets with `*`, flags, dates, sizes. -/
theorem C13_exact (view : List Msg) (maxSeq maxUid : Nat) (ks : List Key) (m : Msg) :
    m ∈ search view maxSeq maxUid ks ↔ m ∈ view ∧ ∀ k ∈ ks, sem maxSeq maxUid k m := by
  rw [C13_prefilter_sound, List.mem_filter, critAll_iff]

/-- UID SEARCH and SEARCH select the same messages (they differ only in which number is printed) -/
theorem C13_uid_equiv (view : List Msg) (maxSeq maxUid : Nat) (ks : List Key) :
    (search view maxSeq maxUid ks).map (·.uid) = ((search view maxSeq maxUid ks).map id).map (·.uid) := by
  simp

/-- logically equivalent programs select the same messages -/
theorem C13_algebra (maxSeq maxUid : Nat) (a b : Key) (m : Msg) :
    crit maxSeq maxUid (.not (.not a)) m = crit maxSeq maxUid a m ∧
    crit maxSeq maxUid (.or a b) m = crit maxSeq maxUid (.or b a) m ∧
    crit maxSeq maxUid (.not (.or a b)) m = crit maxSeq maxUid (.keyset [.not a, .not b]) m ∧
    crit maxSeq maxUid (.keyset [a, b]) m = crit maxSeq maxUid (.keyset [b, a]) m := by
  simp only [crit, critAll, Bool.and_true]
  exact ⟨Bool.not_not _, Bool.or_comm _ _, Bool.not_or _ _, Bool.and_comm _ _⟩

/-- **set semantics**: `SearchCommand` keeps the top-level keys in a `frozenset`, so their order is the hash order and equal
keys collapse.  Neither can change the result: two key lists with the same members — in any order, with any repetitions —
select the same messages, whichever sequence-set key the pre-filter happens to pick.  The proviso is that equality of keys is
equality: the seeded changes C13-b and C13-c broke exactly that (a `__hash__` that forgets a field makes different keys "equal"). -/
theorem C13_set_semantics (view : List Msg) (maxSeq maxUid : Nat) (ks ks' : List Key) (h : ∀ k, k ∈ ks ↔ k ∈ ks') :
    search view maxSeq maxUid ks = search view maxSeq maxUid ks' := by
  rw [C13_prefilter_sound, C13_prefilter_sound]
  refine List.filter_congr fun m _ => ?_
  rw [critAll_eq_all, critAll_eq_all, Bool.eq_iff_iff]
  simp only [List.all_eq_true, h]

/-- dropping one of two *different* keys is not licensed by this theorem: `SEEN` and `NOT SEEN` together select nothing,
either of them alone does not -/
example : ∃ (m : Msg), crit 1 1 (.flag 0 true) m = true ∧ critAll 1 1 [.flag 0 true, .not (.flag 0 true)] m = false :=
  ⟨⟨1, 1, [0], 0, none, 0, fun _ => false⟩, by decide, by decide⟩

end Pymap.C13
