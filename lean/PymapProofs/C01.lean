import PymapProofs.Lemmas.System
/-!
# C01 — sequence numbers: the client view never diverges from the server

Model: `PymapModel/Sync.lean`, `PymapModel/System.lean`.
-/
namespace Pymap.C01
open Pymap.Sync Pymap.System Pymap.Mailbox

/-- The server-side cache arithmetic is right for every delivery pattern. -/
theorem C01_coherent (v : View) (msgs : List CMsg) (exp : List Nat) (hide : Bool)
    (h : Coherent v) : Coherent (addUpdates v msgs exp hide) :=
  addUpdates_coherent v msgs exp hide h

/-- One fork: the untagged responses, applied in order by the client, are all legal
(EXPUNGE within range, EXISTS never shrinking) and leave the client holding exactly the server's list. -/
theorem C01_fork_sync (b a : View) (rb ra : List Nat) (hide : Bool) (sil : List (Nat × List Nat)) (wu : Bool)
    (hb : Coherent b) (ha : Coherent a)
    (hnew : ∀ u ∈ a.uids, u ∉ b.uids → ∀ w ∈ a.uids, w ∈ b.uids → w < u)
    (hhide : hide = true → ∀ u ∈ b.uids, u ∈ a.uids) :
    clientRun a.sorted b.sorted (Sync.compare (freeze b rb) (freeze a ra) hide sil wu false) = some a.sorted :=
  fork_sync b a rb ra hide sil wu hb ha hnew hhide

/-- No EXPUNGE is ever sent while answering a non-UID FETCH/STORE/SEARCH. -/
theorem C01_hide_no_expunge (before after : Frozen) (sil : List (Nat × List Nat)) (wu del : Bool) :
    ∀ n, Untagged.expunge n ∉ Sync.compare before after true sil wu del := by
  intro n hn
  unfold Sync.compare at hn
  split at hn
  · simp at hn
  · simp only [List.mem_append] at hn
    rcases hn with hn | hn | hn | hn
    · simp [cmpExpunge] at hn
    · unfold cmpExists at hn; split at hn <;> simp at hn
    · unfold cmpRecent at hn; split at hn <;> simp at hn
    · unfold cmpFetch at hn; simp at hn

/-- Every FETCH produced by a fork carries the sequence number of its message in the current numbering. -/
theorem C01_fetch_labels (b a : View) (rb ra : List Nat) (sil : List (Nat × List Nat)) (wu : Bool)
    (ha : Coherent a) :
    ∀ r ∈ cmpFetch (freeze b rb) (freeze a ra) sil wu,
      ∃ s u f rc w, r = Untagged.fetch s u f rc w ∧ ∃ (_ : s - 1 < a.sorted.length), 1 ≤ s ∧ a.sorted[s-1] = u :=
  fetch_labels b a rb ra sil wu ha

/-- **Closed system.** Whatever any number of sessions do in whatever order, no session's client is
ever sent an illegal response, and after every command it holds exactly the server's sequence-number
to UID mapping. -/
theorem C01_system (ops : List Op) (i : Nat) (x : Sess)
    (hx : (run Sys.init ops).sess[i]? = some x) :
    x.client = some x.view.sorted ∧ Coherent x.view :=
  let h := (reachable_inv ops).sess x (List.mem_of_getElem? hx)
  ⟨h.client, h.coh⟩

/-- non-vacuity: a concrete interleaving with an expunge by another session, a hidden fetch and a late NOOP -/
example :
    let s := run Sys.init [.append [] false 1 0, .append [] false 2 0, .append [] false 3 0, .select, .select,
      .expunge 1 [102], .append [] false 4 0, .sync 0 true false, .sync 0 false false]
    (s.sess[0]?.map (·.client)) = some (some [101, 103, 104]) := by decide

end Pymap.C01
