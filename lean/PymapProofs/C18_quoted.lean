import PymapProofs.Lemmas.Wire
/-!
# C18 / C07 — a quoted string survives being written and read again; what `String.build` quotes is safe to quote
-/
namespace Pymap.C18
open Pymap.Wire

/-- serialising a quoted string and parsing it again yields the same value and consumes exactly
its own bytes, whatever follows -/
theorem C18_roundtrip_quoted (v rest : List Nat) (h : ∀ b ∈ v, b ≠ 13 ∧ b ≠ 10) :
    parseQuoted (serQuoted v ++ rest) = some (v, rest) := by
  have : serQuoted v ++ rest = dq :: (escape v ++ dq :: rest) := by simp [serQuoted]
  rw [this, parseQuoted, skipSpaces_of_ne _ _ (by decide)]
  exact (if_pos rfl).trans (scanQuoted_escape v rest [] h)

/-- what `escape` emits contains no bare quote or backslash: every `"`/`\` is preceded by a backslash
that is not itself escaped — stated as: un-escaping is the identity (the strict grammar's reading) -/
theorem C07_quoted_escape (v : List Nat) (h : ∀ b ∈ v, b ≠ 13 ∧ b ≠ 10) :
    scanQuoted [] (escape v ++ [dq]) = some (v, []) :=
  scanQuoted_escape v [] [] h

/-- `String.build` never puts CR, LF or NUL inside a quoted string -/
theorem C07_build_safe (v : List Nat) (hq : buildString false v = serQuoted v) (hne : v ≠ []) :
    ∀ b ∈ v, b ≠ 13 ∧ b ≠ 10 ∧ b ≠ 0 := by
  rcases buildString_cases false v with h | h
  · exact h.2
  · -- the literal form starts with `{`, the quoted form with `"`
    rw [h] at hq; exact absurd (List.cons.inj hq).1 (by decide)

example : parseQuoted (serQuoted [97, 34, 92, 98] ++ [32, 120]) = some ([97, 34, 92, 98], [32, 120]) := by decide

end Pymap.C18
