import PymapModel.SeqText
import PymapProofs.Lemmas.Wire
import PymapProofs.C18_number
/-!
# C18 — a sequence set survives being written and read again, and the reader takes exactly its bytes
-/
namespace Pymap.C18
open Pymap.Seq Pymap.Grammar Pymap.Wire Pymap.SeqText

/-- the numbers of a sequence set are `nz-number`s -/
def idxOk : Idx → Bool
  | .star => true
  | .num n => decide (1 ≤ n)

def elemOk : Elem → Bool
  | .one i => idxOk i
  | .range l r => idxOk l && idxOk r

theorem serIdx_cons (i : Idx) (hi : idxOk i = true) : ∃ b r, serIdx i = b :: r ∧ (b = 42 ∨ 49 ≤ b ∧ b ≤ 57) := by
  cases i with
  | star => exact ⟨42, [], rfl, .inl rfl⟩
  | num n =>
    obtain ⟨b, r, hd, hb⟩ := digits_head_pos n (by simpa [idxOk] using hi)
    exact ⟨b, r, hd, .inr hb⟩

theorem parseIdx_ser (i : Idx) (t : List Nat) (hi : idxOk i = true) (ht : firstIsDigit t = false) :
    parseIdx (serIdx i ++ t) = some (i, t) := by
  cases i with
  | star => rfl
  | num n =>
    obtain ⟨b, r, hd, h1, h2⟩ := digits_head_pos n (by simpa [idxOk] using hi)
    have hrt := C18_roundtrip_number n t ht
    rw [hd, List.cons_append] at hrt
    rw [serIdx, hd, List.cons_append, parseIdx, if_neg (by omega), if_pos ⟨h1, h2⟩, hrt]

/-- what may follow an element: not a digit and not a colon -/
def afterElem (t : List Nat) : Bool := !firstIsDigit t && (match t with | 58 :: _ => false | _ => true)

theorem parsePart_ser (e : Elem) (t : List Nat) (he : elemOk e = true) (ht : afterElem t = true) :
    parsePart (serElem e ++ t) = some (e, t) := by
  have htd : firstIsDigit t = false := by simp [afterElem] at ht; exact ht.1
  cases e with
  | one i =>
    simp only [serElem, parsePart, parseIdx_ser i t he htd]
    split
    · simp [afterElem] at ht
    · rfl
  | range l r =>
    rw [elemOk, Bool.and_eq_true] at he
    rw [serElem, List.append_assoc, List.cons_append, parsePart, parseIdx_ser l _ he.1 rfl]
    simp only [parseIdx_ser r t he.2 htd]

/-- what may follow the whole set: nothing, or a byte that is not a digit, a colon or a comma -/
def afterSet (t : List Nat) : Bool := afterElem t && (match t with | 44 :: _ => false | _ => true)

theorem ser_cons (es : List Elem) (hne : es ≠ []) (hok : ∀ e ∈ es, elemOk e = true) : ∃ b r, ser es = b :: r ∧ b ≠ 32 := by
  obtain ⟨e, es, rfl⟩ := List.exists_cons_of_ne_nil hne
  have he := hok e (List.mem_cons_self ..)
  have ⟨b, r, hs, hb⟩ : ∃ b r, serElem e = b :: r ∧ (b = 42 ∨ 49 ≤ b ∧ b ≤ 57) := by
    cases e with
    | one i => exact serIdx_cons i he
    | range l r =>
      obtain ⟨b, r', hs, hb⟩ := serIdx_cons l (Bool.and_eq_true _ _ ▸ he).1
      exact ⟨b, r' ++ 58 :: serIdx r, by rw [serElem, hs]; rfl, hb⟩
  have hb : b ≠ 32 := by omega
  cases es with
  | nil => exact ⟨b, r, hs, hb⟩
  | cons e2 es => exact ⟨b, r ++ 44 :: ser (e2 :: es), by rw [ser, hs]; rfl, hb⟩

theorem parseLoop_step (f : Nat) {buf r : List Nat} {e : Elem} (hp : parsePart buf = some (e, r)) :
    parseLoop (f + 1) buf = if r = [] then some ([e], []) else
      if r.head? = some 44 then (parseLoop f r.tail).map (fun p => (e :: p.1, p.2)) else some ([e], r) := by
  rw [parseLoop, if_neg (by rintro rfl; cases hp), hp]

theorem parseLoop_ser (es : List Elem) (t : List Nat) (f : Nat) (hne : es ≠ []) (hok : ∀ e ∈ es, elemOk e = true)
    (ht : afterSet t = true) (hf : (ser es ++ t).length < f) : parseLoop f (ser es ++ t) = some (es, t) := by
  fun_induction ser es generalizing f with
  | case1 => exact absurd rfl hne
  | case2 e =>
    cases f with
    | zero => exact absurd hf (Nat.not_lt_zero _)
    | succ f =>
      simp only [afterSet, Bool.and_eq_true] at ht
      rw [parseLoop_step f (parsePart_ser e t (hok e (List.mem_cons_self ..)) ht.1)]
      cases t with
      | nil => rfl
      | cons c r => rw [if_neg (List.cons_ne_nil _ _), if_neg (by rintro ⟨rfl⟩; cases ht.2)]
  | case3 e e2 es ih =>
    cases f with
    | zero => exact absurd hf (Nat.not_lt_zero _)
    | succ f =>
      have ⟨he, hes⟩ := List.forall_mem_cons.1 hok
      rw [List.append_assoc, List.cons_append] at hf ⊢
      rw [parseLoop_step f (parsePart_ser e _ he rfl), if_neg (List.cons_ne_nil _ _), List.head?_cons, if_pos rfl, List.tail_cons,
        ih f (List.cons_ne_nil _ _) hes (by rw [List.length_append, List.length_cons] at hf; omega)]
      rfl

/-- **Round trip of sequence sets.** Any non-empty list of elements over positive numbers and `*`, written as `SequenceSet.__bytes__`
writes it and followed by anything that cannot continue a sequence set, is read back as the same list, and exactly what followed is left. -/
theorem C18_seqset_roundtrip (es : List Elem) (t : List Nat) (hne : es ≠ []) (hok : ∀ e ∈ es, elemOk e = true)
    (ht : afterSet t = true) : SeqText.parse (ser es ++ t) = some (es, t) := by
  obtain ⟨b, r, hs, hb⟩ := ser_cons es hne hok
  have hfirst : skipSpaces (ser es ++ t) = ser es ++ t := by rw [hs]; exact skipSpaces_of_ne b _ hb
  rw [SeqText.parse, hfirst, parseLoop_ser es t _ hne hok ht (Nat.lt_succ_self _)]
  obtain ⟨e, rest, rfl⟩ := List.exists_cons_of_ne_nil hne
  rfl

/-- non-vacuity: `1:*,5,*:3` followed by a space -/
example : SeqText.parse (ser [.range (.num 1) .star, .one (.num 5), .range .star (.num 3)] ++ [32, 120]) =
    some ([.range (.num 1) .star, .one (.num 5), .range .star (.num 3)], [32, 120]) :=
  C18_seqset_roundtrip _ _ (by simp) (by decide) (by decide)

end Pymap.C18
