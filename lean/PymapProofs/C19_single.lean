import PymapModel.SieveSingle
/-!
# C19 on the one-script store: what was acknowledged holds
-/
namespace Pymap.C19
open Pymap.Sieve Pymap.SieveSingle

/-- a PUTSCRIPT that was answered OK is followed by GETSCRIPT returning those bytes and LISTSCRIPTS showing the name -/
theorem C19_single_put_get (maxLen : Nat) (slot : Slot) (n : Name) (s : Script)
    (h : (SieveSingle.runState maxLen slot (.putscript n s)).2 = .ok) :
    let slot' := (SieveSingle.runState maxLen slot (.putscript n s)).1
    (SieveSingle.runState maxLen slot' (.getscript n)).2 = .script s ∧
    (SieveSingle.runState maxLen slot' .listscripts).2 = .list [(n, true)] := by
  simp only [SieveSingle.runState] at h ⊢
  by_cases hl : s.length ≤ maxLen
  · by_cases hn : n = permanent
    · subst hn; simp [hl]
    · simp [hl, hn] at h
  · simp [hl] at h

theorem single_unchanged_or_ok (maxLen : Nat) (slot : Slot) (c : Cmd) :
    (SieveSingle.runState maxLen slot c).1 = slot ∨ (SieveSingle.runState maxLen slot c).2 = .ok := by
  -- the store is written by an accepted PUTSCRIPT and an accepted DELETESCRIPT only, and both are answered OK
  fun_cases SieveSingle.runState maxLen slot c with
  | case2 | case12 => exact .inr rfl     -- PUTSCRIPT of the permanent name within the limit; DELETESCRIPT of the stored script
  | _ => exact .inl rfl

/-- a command that is not answered OK leaves the store as it was; GETSCRIPT, LISTSCRIPTS, HAVESPACE and CHECKSCRIPT never change it -/
theorem C19_single_refused_unchanged (maxLen : Nat) (slot : Slot) (c : Cmd)
    (h : isOk (SieveSingle.runState maxLen slot c).2 = false) : (SieveSingle.runState maxLen slot c).1 = slot :=
  (single_unchanged_or_ok maxLen slot c).resolve_right fun hok => by rw [hok] at h; cases h

/-- GETSCRIPT and LISTSCRIPTS answer from the view: exactly the acknowledged map -/
theorem C19_single_reads (maxLen : Nat) (slot : Slot) (n : Name) :
    (SieveSingle.runState maxLen slot (.getscript n)).2 = (match dget n (view slot) with | some s => .script s | none => .no "NONEXISTENT") ∧
    (SieveSingle.runState maxLen slot .listscripts).2 = .list ((view slot).map (fun p => (p.1, true))) := by
  cases slot <;> by_cases hn : n = permanent <;> simp [SieveSingle.runState, view, dget, hn]

/-- SETACTIVE and DELETESCRIPT are acknowledged only for a stored script -/
theorem C19_single_no_ghosts (maxLen : Nat) (slot : Slot) (n : Name) :
    ((SieveSingle.runState maxLen slot (.setactive (some n))).2 = .ok → (dget n (view slot)).isSome) ∧
    ((SieveSingle.runState maxLen slot (.deletescript n)).2 = .ok → (dget n (view slot)).isSome) := by
  cases slot <;> by_cases hn : n = permanent <;> simp [SieveSingle.runState, view, dget, hn]

/-- **as found (D80)**: the one script is listed ACTIVE and DELETESCRIPT of it is nevertheless answered OK — the clause "the active
script cannot be deleted" of C19 does not hold for this store -/
theorem single_delete_active_as_found (maxLen : Nat) (s : Script) :
    (SieveSingle.runState maxLen (some s) .listscripts).2 = .list [(permanent, true)] ∧
    (SieveSingle.runState maxLen (some s) (.deletescript permanent)).2 = .ok := by
  simp [SieveSingle.runState]

end Pymap.C19
