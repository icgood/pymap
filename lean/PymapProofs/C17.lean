import PymapModel.Recent
import PymapProofs.Lemmas.Keys
/-!
# C17 — `\Recent` is announced to at most one session, to the first read-write one, and is not stored once announced
-/
namespace Pymap.C17
open Pymap.Recent

/-- No uid was given to a session twice (`nodupG`), and a message whose stored bit is still set has been given to nobody (`bitNew`);
the rest says that uids are unique in the store and below `next`. -/
structure Inv (s : St) : Prop where
  nodupG : (s.given.map (·.1)).Nodup
  nodupB : (s.bits.map (·.1)).Nodup
  bitNew : ∀ b ∈ s.bits, b.2 = true → b.1 ∉ s.given.map (·.1)
  ltG    : ∀ u ∈ s.given.map (·.1), u < s.next
  ltB    : ∀ b ∈ s.bits, b.1 < s.next

theorem Inv.init (n : Nat) : Inv (St.init n) := by constructor <;> simp [St.init]

/-- `Inv` does not speak of the sessions -/
theorem Inv.sess {s : St} (h : Inv s) (ss : List (Option Sel)) : Inv { s with sess := ss } :=
  ⟨h.nodupG, h.nodupB, h.bitNew, h.ltG, h.ltB⟩

/-- the uids a read-write SELECT claims are those stored with the bit set -/
theorem mem_claimed {bits : List (Nat × Bool)} {u : Nat} : u ∈ (bits.filter (·.2)).map (·.1) ↔ (u, true) ∈ bits := by
  simp only [List.mem_map, List.mem_filter]
  constructor
  · rintro ⟨⟨_, _⟩, ⟨h, rfl⟩, rfl⟩; exact h
  · exact fun h => ⟨_, ⟨h, rfl⟩, rfl⟩

/-- read-write SELECT by session `i`: every stored bit is cleared, and `i` is given the uids `c` that had it set -/
theorem Inv.claim {s : St} (h : Inv s) (i : Nat) (ss : List (Option Sel)) {c : List Nat} (hnd : c.Nodup)
    (hc : ∀ u ∈ c, (u, true) ∈ s.bits) :
    Inv { s with bits := s.bits.map (fun b => (b.1, false)), sess := ss, given := c.map (fun u => (u, i)) ++ s.given } := by
  have hG : (c.map (fun u => (u, i)) ++ s.given).map (·.1) = c ++ s.given.map (·.1) := by
    rw [List.map_append, List.map_map]; exact congrArg (· ++ _) (List.map_id _)
  refine ⟨?_, ?_, ?_, ?_, ?_⟩
  · rw [hG, List.nodup_append]
    exact ⟨hnd, h.nodupG, fun u hu v hv e => h.bitNew (u, true) (hc u hu) rfl (e ▸ hv)⟩
  · rw [List.map_map]; exact h.nodupB
  · intro b hb hb2
    obtain ⟨_, _, rfl⟩ := List.mem_map.1 hb
    cases hb2
  · intro u hu
    rw [hG, List.mem_append] at hu
    exact hu.elim (fun hu => h.ltB (u, true) (hc u hu)) (h.ltG u)
  · intro b hb
    obtain ⟨b', hb', rfl⟩ := List.mem_map.1 hb
    exact h.ltB b' hb'

theorem Inv.fresh_given {s : St} (h : Inv s) : s.next ∉ s.given.map (·.1) :=
  fun hc => Nat.lt_irrefl _ (h.ltG _ hc)

theorem Inv.fresh_bits {s : St} (h : Inv s) : s.next ∉ s.bits.map (·.1) := fun hc => by
  obtain ⟨b, hb, e⟩ := List.mem_map.1 hc
  exact Nat.lt_irrefl _ (e ▸ h.ltB b hb)

/-- APPEND while session `j` has the mailbox selected read-write: the new message is announced to `j`, its bit stays clear -/
theorem Inv.deliver {s : St} (h : Inv s) (j : Nat) (ss : List (Option Sel)) :
    Inv { s with next := s.next + 1, bits := s.bits ++ [(s.next, false)], sess := ss,
                 given := (s.next, j) :: s.given } where
  nodupG := List.nodup_cons.2 ⟨h.fresh_given, h.nodupG⟩
  nodupB := nodup_map_concat h.nodupB h.fresh_bits
  bitNew := List.forall_mem_append.2
    ⟨fun b hb hb2 hc => (List.mem_cons.1 hc).elim (fun e => Nat.lt_irrefl _ (e ▸ h.ltB b hb)) (h.bitNew b hb hb2),
     List.forall_mem_singleton.2 nofun⟩
  ltG := List.forall_mem_cons.2 ⟨Nat.lt_succ_self _, fun u hu => Nat.lt_succ_of_lt (h.ltG u hu)⟩
  ltB := List.forall_mem_append.2
    ⟨fun b hb => Nat.lt_succ_of_lt (h.ltB b hb), List.forall_mem_singleton.2 (Nat.lt_succ_self _)⟩

/-- APPEND while nobody has the mailbox selected read-write: the bit is stored -/
theorem Inv.store {s : St} (h : Inv s) : Inv { s with next := s.next + 1, bits := s.bits ++ [(s.next, true)] } where
  nodupG := h.nodupG
  nodupB := nodup_map_concat h.nodupB h.fresh_bits
  bitNew := List.forall_mem_append.2 ⟨h.bitNew, List.forall_mem_singleton.2 fun _ => h.fresh_given⟩
  ltG := fun u hu => Nat.lt_succ_of_lt (h.ltG u hu)
  ltB := List.forall_mem_append.2
    ⟨fun b hb => Nat.lt_succ_of_lt (h.ltB b hb), List.forall_mem_singleton.2 (Nat.lt_succ_self _)⟩

theorem Inv.expunge {s : St} (h : Inv s) (u : Nat) : Inv { s with bits := s.bits.filter (fun b => b.1 != u) } where
  nodupG := h.nodupG
  nodupB := h.nodupB.sublist (List.filter_sublist.map _)
  bitNew := fun b hb => h.bitNew b (List.mem_filter.1 hb).1
  ltG := h.ltG
  ltB := fun b hb => h.ltB b (List.mem_filter.1 hb).1

theorem Inv.step {s : St} (h : Inv s) (op : Op) : Inv (step s op) := by
  fun_cases Recent.step s op with
  | case1 | case4 => exact h.sess _         -- EXAMINE, CLOSE
  | case2 i => exact h.claim i _ (h.nodupB.sublist (List.filter_sublist.map _)) fun _ => mem_claimed.1   -- read-write SELECT
  | case3 => exact h                        -- SELECT by a session that is not there
  | case5 => exact h.deliver _ _            -- APPEND announced to a read-write session
  | case6 => exact h.store                  -- APPEND with nobody to announce it to
  | case7 u => exact h.expunge u

theorem Inv.run {s : St} (h : Inv s) (ops : List Op) : Inv (run s ops) := by
  induction ops generalizing s with
  | nil => exact h
  | cons op ops ih => exact ih (h.step op)

/-- **At most one.** Over the whole life of a message — any order of selects, examines, closes,
reselects, appends and expunges by any number of sessions — `\Recent` is handed out for it at most once. -/
theorem C17_at_most_one (n : Nat) (ops : List Op) (u i j : Nat)
    (hi : (u, i) ∈ (run (St.init n) ops).given) (hj : (u, j) ∈ (run (St.init n) ops).given) : i = j :=
  (Prod.mk.inj (eq_of_nodup_map ((Inv.init n).run ops).nodupG hi hj rfl)).2

/-- a message that arrived while nobody had the mailbox selected read-write is announced to the first
read-write session that selects it; a read-only selection consumes nothing -/
theorem C17_first_rw_gets_it (s : St) (i u : Nat) (hi : i < s.sess.length) (hu : (u, true) ∈ s.bits) :
    (∃ x, (step s (.select i false)).sess[i]? = some (some x) ∧ u ∈ x.recent) ∧
    (step s (.select i true)).bits = s.bits := by
  constructor
  · refine ⟨⟨false, (s.bits.filter (·.2)).map (·.1)⟩, ?_, ?_⟩
    · simp [Recent.step, hi]
    · exact mem_claimed.2 hu
  · simp [Recent.step, hi]

/-- a stored bit is never set for a message that was announced to somebody -/
theorem C17_not_stored_after (n : Nat) (ops : List Op) (u j : Nat)
    (hj : (u, j) ∈ (run (St.init n) ops).given) : (u, true) ∉ (run (St.init n) ops).bits := by
  intro hc
  exact ((Inv.init n).run ops).bitNew (u, true) hc rfl (List.mem_map.2 ⟨(u, j), hj, rfl⟩)

/-- non-vacuity: an EXAMINE session appends to its own mailbox; the next read-write SELECT gets the flag -/
example : (run (St.init 2) [.select 0 true, .append 0 0, .select 1 false]).given = [(1, 1)] := by decide

end Pymap.C17
