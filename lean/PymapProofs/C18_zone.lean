import PymapModel.Zone
import PymapProofs.Lemmas.Pack
/-!
# C18 — the zone of a date-time survives being written and read again

An offset is a sign and a magnitude (`offs`), the magnitude is hours and minutes (`/ 60`, `% 60`), each of them two digits (`d2`):
`parse` inverts `fmt` layer by layer, and the only value lost on the way is the sign of zero.
-/
namespace Pymap.C18
open Pymap.Zone

theorem isDig_iff (b : Nat) : isDig b = true ↔ 48 ≤ b ∧ b ≤ 57 := by
  simp only [isDig, Bool.and_eq_true, decide_eq_true_eq]

theorem isDig_add {k : Nat} (h : k < 10) : isDig (48 + k) = true := (isDig_iff _).2 (by omega)

theorem d2_digits (n : Nat) (h : n < 100) :
    isDig (48 + n / 10) = true ∧ isDig (48 + n % 10) = true ∧ (48 + n / 10 - 48) * 10 + (48 + n % 10 - 48) = n := by
  refine ⟨isDig_add (Nat.div_lt_of_lt_mul h), isDig_add (Nat.mod_lt _ (by decide)), ?_⟩
  rw [Nat.add_sub_cancel_left, Nat.add_sub_cancel_left, Nat.div_add_mod']

theorem d2_of_digits {a b : Nat} (ha : isDig a = true) (hb : isDig b = true) : d2 ((a - 48) * 10 + (b - 48)) = [a, b] := by
  rw [isDig_iff] at ha hb
  obtain ⟨x, rfl⟩ := Nat.exists_eq_add_of_le ha.1
  obtain ⟨y, rfl⟩ := Nat.exists_eq_add_of_le hb.1
  have hy : y < 10 := by omega
  rw [Nat.add_sub_cancel_left, Nat.add_sub_cancel_left, d2, pack_div hy, Nat.mul_add_mod_of_lt hy]

/-- the offset a sign byte and a number of minutes stand for -/
def offs (s n : Nat) : Int := if s = 45 then -(n : Int) else n

theorem parse_hm (s n : Nat) (hs : s = 43 ∨ s = 45) (hn : n < 1440) :
    parse (s :: (d2 (n / 60) ++ d2 (n % 60))) = some (offs s n) := by
  have hm : n % 60 < 60 := Nat.mod_lt _ (by decide)
  obtain ⟨a1, a2, a3⟩ := d2_digits (n / 60) (Nat.div_lt_of_lt_mul (Nat.lt_trans hn (by decide)))
  obtain ⟨b1, b2, b3⟩ := d2_digits (n % 60) (Nat.lt_trans hm (by decide))
  simp only [d2, List.cons_append, List.nil_append, parse, a1, a2, a3, b1, b2, b3, Nat.div_add_mod', offs]
  simp [hs, hm, hn]

theorem parse_some_hm {t : List Nat} {z : Int} (h : parse t = some z) :
    ∃ s n, (s = 43 ∨ s = 45) ∧ n < 1440 ∧ t = s :: (d2 (n / 60) ++ d2 (n % 60)) ∧ z = offs s n := by
  unfold parse at h
  split at h
  · next s a b c d =>
    simp only [Option.ite_none_right_eq_some, Option.some.injEq, Bool.and_eq_true, Bool.or_eq_true, decide_eq_true_eq] at h
    obtain ⟨⟨⟨⟨⟨hs, ha⟩, hb⟩, hc⟩, hd⟩, ⟨hm, hlt⟩, rfl⟩ := h
    refine ⟨s, _, hs, hlt, ?_, rfl⟩
    rw [pack_div hm, Nat.mul_add_mod_of_lt hm, d2_of_digits ha hb, d2_of_digits hc hd]; rfl
  · cases h

theorem natAbs_offs (s n : Nat) : (offs s n).natAbs = n := by
  rw [offs]; split
  · exact (Int.natAbs_neg _).trans (Int.natAbs_natCast n)
  · exact Int.natAbs_natCast n

/-- **round trip of zones**: every offset of less than a day, in whole minutes, east or west, is written as a zone that is read
back as the same offset (the floor-division spelling of the seeded change C18-e fails this for `-0330`). -/
theorem C18_zone_roundtrip (z : Int) (h : z.natAbs < 1440) : parse (fmt z) = some z := by
  rw [fmt, parse_hm _ _ (by split <;> simp) h, offs]
  congr 1
  by_cases hz : z < 0
  · rw [if_pos hz, if_pos rfl, Int.ofNat_natAbs_of_nonpos (Int.le_of_lt hz), Int.neg_neg]
  · rw [if_neg hz, if_neg (by decide)]
    exact Int.natAbs_of_nonneg (Int.not_lt.1 hz)

/-- the other direction: a zone that is accepted is, except for `-0000`, exactly how its offset is written -/
theorem C18_zone_canonical (t : List Nat) (z : Int) (h : parse t = some z) (hneg0 : t ≠ [45, 48, 48, 48, 48]) : fmt z = t := by
  obtain ⟨s, n, hs, hn, rfl, rfl⟩ := parse_some_hm h
  rw [fmt, natAbs_offs]
  congr 1
  rcases hs with rfl | rfl
  · exact if_neg (Int.not_lt.2 (Int.natCast_nonneg n))
  · -- `-0000` is the one accepted zone that is not written: it reads as offset 0, which is written `+0000`
    have h0 : n ≠ 0 := fun h0 => hneg0 (by rw [h0]; rfl)
    exact if_pos (Int.neg_neg_of_pos (Int.natCast_pos.2 (Nat.pos_of_ne_zero h0)))

/-- non-vacuity and the seeded counter-example: −3:30 is `-0330`, not `-0430` -/
example : fmt (-210) = [45, 48, 51, 51, 48] ∧ parse [45, 48, 51, 51, 48] = some (-210) ∧ parse [45, 48, 52, 51, 48] = some (-270) := by decide

end Pymap.C18
