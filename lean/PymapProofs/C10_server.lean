import PymapModel.Server
import PymapProofs.C10_copy
/-!
# C10 — the command-level server model runs COPY / MOVE through `Session.copyCmd` / `Session.moveSrc`

`Server.copyMove` is what the wire-level correspondence compares with the implementation; for two distinct mailboxes its effect
on the mailboxes is literally `copyCmd` on the destination and `moveSrc` on the source (up to the canonical flag order the server
model stores), so `C10_copy_refines` / `C10_move_refines` speak about the tied model.
-/
namespace Pymap.C10
open Pymap.Sync Pymap.Mailbox Pymap.Seq Pymap.Session Pymap.Server

theorem box_setSel (s : Srv) (i : Nat) (x : Option Sel) (b : Nat) : (s.setSel i x).box b = s.box b := rfl

theorem boxes_setSel (s : Srv) (i : Nat) (x : Option Sel) : (s.setSel i x).boxes = s.boxes := rfl

theorem boxes_addRecentTo (s : Srv) (j : Option Nat) (u : Nat) : (addRecentTo s j u).boxes = s.boxes := by
  unfold addRecentTo
  cases j with
  | none => rfl
  | some j => simp only []; split <;> rfl

theorem boxes_fold_addRecentTo (j : Option Nat) : ∀ (us : List Nat) (s : Srv),
    (us.foldl (fun acc du => addRecentTo acc j du) s).boxes = s.boxes
  | [], _ => rfl
  | u :: us, s => by
    simp only [List.foldl_cons]
    rw [boxes_fold_addRecentTo j us, boxes_addRecentTo]

theorem box_setBox_same (s : Srv) (b : Nat) (m : MBox) (h : b < s.boxes.length) : (s.setBox b m).box b = normBox m := by
  simp [Srv.setBox, Srv.box, List.getD, h]

theorem box_setBox_ne (s : Srv) (b c : Nat) (m : MBox) (h : c ≠ b) : (s.setBox b m).box c = s.box c := by
  simp [Srv.setBox, Srv.box, List.getD, Ne.symm h]

theorem boxes_finish (s : Srv) (i : Nat) (x : Sel) (hide withUid : Bool) (sil : List (Nat × List Nat)) (st : Status) (code : String)
    (f : List Nat → List Item) : (finish s i x hide withUid sil st code f).1.boxes = s.boxes := rfl

/-- **the tied server model copies and moves by `copyCmd` / `moveSrc`** (distinct mailboxes; the same-mailbox case is a plain
fold of `push`/`pop` covered by the correspondence only) -/
theorem C10_server_copyMove (s : Srv) (i : Nat) (move byUid : Bool) (set : List Elem) (dest pick : Nat) (x : Sel)
    (hsel : s.sel i = some x) (hro : (move && x.ro) = false) (hd : dest < s.boxes.length) (hx : x.box < s.boxes.length)
    (hne : dest ≠ x.box) :
    let r := (copyMove s i move byUid set dest pick).1
    r.box dest = normBox (copyCmd (s.box x.box) (s.box dest) x.view byUid set (pickDest s i dest pick).isNone).1 ∧
    r.box x.box = if move then normBox (moveSrc (s.box x.box) ((sourceMsgs (s.box x.box) x.view byUid set).map (·.uid)))
                  else s.box x.box := by
  intro r
  -- whatever the tail of the command does, it only touches the sessions
  have tail : ∀ (s' : Srv) (code : String),
      (match s'.sel i with
        | some x' => finish s' i x' false byUid [] .ok code (fun _ => [])
        | none => (s', { status := .ok, code := code })).1.boxes = s'.boxes := by
    intro s' code
    cases s'.sel i with
    | none => rfl
    | some x' => exact boxes_finish ..
  -- the mailboxes after the command: the destination is set, then, for a MOVE, the source
  have key : r.boxes =
      (let s1 := s.setBox dest (copyCmd (s.box x.box) (s.box dest) x.view byUid set (pickDest s i dest pick).isNone).1
       if move then s1.setBox x.box (moveSrc (s.box x.box) ((sourceMsgs (s.box x.box) x.view byUid set).map (·.uid)))
       else s1).boxes := by
    show (copyMove s i move byUid set dest pick).1.boxes = _
    unfold copyMove
    rw [hsel]
    dsimp only
    rw [if_neg (Bool.eq_false_iff.1 hro), if_neg (Nat.not_le.2 hd), if_pos hne]
    refine (tail _ _).trans ?_
    cases move
    · exact boxes_fold_addRecentTo _ _ _
    · simp only [if_true, Srv.setBox, boxes_fold_addRecentTo]
  have hbox : ∀ b, r.box b = (r.boxes).getD b MBox.new := fun _ => rfl
  rw [hbox, hbox, key]
  cases move with
  | true =>
    exact ⟨(box_setBox_ne _ _ _ _ hne).trans (box_setBox_same _ _ _ hd),
      box_setBox_same _ _ _ (by simpa [Srv.setBox] using hx)⟩
  | false => exact ⟨box_setBox_same _ _ _ hd, box_setBox_ne _ _ _ _ (Ne.symm hne)⟩

/-- **EXPUNGE/CLOSE in the tied server model**: the stale-view re-expunge (uids already gone are handed to `delete` again, and
logged again) does not touch the content: the mailbox is the one `Session.expungeCmd` leaves, about which `C10_expunge_refines`
speaks -/
theorem C10_server_expunge (s : Srv) (x : Sel) (uidSet : Option (List Elem)) :
    abs (delete (s.box x.box) (expungeUids s x uidSet)) = abs (expungeCmd (s.box x.box) x.view uidSet) := by
  unfold expungeCmd expungeUids
  rw [abs_delete, abs_delete]
  refine List.filter_congr fun m hm => ?_
  obtain ⟨m0, hm0, rfl⟩ := List.mem_map.1 hm
  -- a live message is found, so the flags remembered for expunged ones are not consulted
  obtain ⟨m1, hm1⟩ : ∃ m1, (s.box x.box).find (toS m0).uid = some m1 := find_isSome (mem_uids.2 ⟨m0, hm0, rfl⟩)
  congr 1
  rw [Bool.eq_iff_iff]
  simp only [List.contains_iff_mem, List.mem_filter, hm1]

/-- flag sets are stored in canonical order; nothing else differs -/
def normS (m : Spec.SMsg) : Spec.SMsg := { m with flags := sortAsc m.flags }

theorem abs_normBox (b : MBox) : abs (normBox b) = (abs b).map normS := by
  simp [abs, normBox, normS, toS, List.map_map, Function.comp_def]

theorem normS_flags (m : Spec.SMsg) (f : Nat) : f ∈ (normS m).flags ↔ f ∈ m.flags := by
  simp [normS, mem_sortAsc]

/-- **end to end for COPY/MOVE between two mailboxes**: what the tied server model leaves in the destination is the
reference model's COPY, and what MOVE leaves in the source is the reference model's MOVE (flag sets in canonical order) -/
theorem C10_server_copy_spec (s : Srv) (i : Nat) (move byUid : Bool) (set : List Elem) (dest pick : Nat) (x : Sel)
    (hsel : s.sel i = some x) (hro : (move && x.ro) = false) (hd : dest < s.boxes.length) (hx : x.box < s.boxes.length)
    (hne : dest ≠ x.box) (hs : Synced (s.box x.box) x.view) :
    let r := (copyMove s i move byUid set dest pick).1
    abs (r.box dest) = (Spec.copy (abs (s.box x.box)) (abs (s.box dest)) ((s.box dest).maxUid + 1) byUid set).map normS ∧
    (move = true → abs (r.box x.box) = (Spec.moveSrc (abs (s.box x.box)) byUid set).map normS) := by
  intro r
  have h := C10_server_copyMove s i move byUid set dest pick x hsel hro hd hx hne
  constructor
  · rw [h.1, abs_normBox, C10_copy_refines _ _ _ hs]
  · intro hm
    rw [h.2, hm]
    simp only [if_true]
    rw [abs_normBox, C10_move_refines _ _ hs]

end Pymap.C10
