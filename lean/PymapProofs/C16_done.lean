import PymapModel.Done
/-!
# C16 — `DONE`, in any case and with CRLF or LF, ends IDLE; nothing else does
-/
namespace Pymap.C16
open Pymap.Done

theorem splitLF_append {g : List Nat} (rest : List Nat) (hg : 10 ∉ g) : splitLF (g ++ 10 :: rest) = some (g, rest) := by
  induction g with
  | nil => rfl
  | cons b g ih =>
    rw [List.cons_append, splitLF, if_neg (by rintro rfl; exact hg (List.mem_cons_self ..)),
      ih (fun h => hg (List.mem_cons_of_mem _ h))]
    rfl

theorem eq_of_splitLF {l g rest : List Nat} (h : splitLF l = some (g, rest)) : l = g ++ 10 :: rest := by
  induction l generalizing g with
  | nil => cases h
  | cons b r ih =>
    rw [splitLF] at h
    split at h
    · cases h; rw [‹b = 10›]; rfl
    · obtain ⟨p, hr, he⟩ := Option.map_eq_some_iff.1 h
      cases he; rw [ih hr]; rfl

theorem stripCR_cases (g : List Nat) : stripCR g = g ∨ g = stripCR g ++ [13] := by
  unfold stripCR
  split
  · obtain ⟨ys, rfl⟩ := List.getLast?_eq_some_iff.1 ‹_›
    exact .inr (by rw [List.dropLast_concat])
  · exact .inl rfl

theorem not_mem_of_upper {w u : List Nat} (h : w.map upperB = u) {c : Nat} (hc : upperB c = c) (hu : c ∉ u) : c ∉ w :=
  fun hm => hu (h ▸ hc ▸ List.mem_map_of_mem hm)

/-- **DONE ends IDLE.** Any spelling of `DONE` by letter case, followed by CRLF or by a bare LF, is recognised, and exactly what
follows the line is left in the buffer. -/
theorem C16_done (w rest : List Nat) (hw : w.map upperB = done) :
    parseDone (w ++ [13, 10] ++ rest) = some (true, rest) ∧ parseDone (w ++ [10] ++ rest) = some (true, rest) := by
  have hlf : 10 ∉ w := not_mem_of_upper hw rfl (by decide)
  have hcr : 13 ∉ w := not_mem_of_upper hw rfl (by decide)
  have h1 : splitLF (w ++ [13, 10] ++ rest) = some (w ++ [13], rest) := by
    simpa using splitLF_append rest (show 10 ∉ w ++ [13] by simp [hlf])
  have h2 : splitLF (w ++ [10] ++ rest) = some (w, rest) := by simpa using splitLF_append rest hlf
  have e1 : stripCR (w ++ [13]) = w := by simp [stripCR]
  have e2 : stripCR w = w := if_neg fun hl => hcr (List.mem_of_getLast? hl)
  unfold parseDone; rw [h1, h2]; simp [e1, e2, hw]

/-- **Nothing else does.** A line that is accepted as the end of IDLE is a case variant of `DONE` directly followed by CRLF or LF —
no padding, no second CR, nothing in front (the seeded changes C16-e and C06-f both touch this recogniser). -/
theorem C16_only_done (l rest : List Nat) (h : parseDone l = some (true, rest)) :
    ∃ w, w.map upperB = done ∧ (l = w ++ [13, 10] ++ rest ∨ l = w ++ [10] ++ rest) := by
  simp only [parseDone, Option.map_eq_some_iff, Prod.mk.injEq, decide_eq_true_eq, Prod.exists] at h
  obtain ⟨g, rest, hs, hd, rfl⟩ := h
  obtain rfl := eq_of_splitLF hs
  refine ⟨stripCR g, hd, ?_⟩
  rcases stripCR_cases g with e | e
  · exact .inr (by rw [e]; simp)
  · exact .inl (by simpa using congrArg (· ++ 10 :: rest) e)

/-- non-vacuity: `dOnE` CRLF is the end, `DONE ` CRLF and `DONE` CR CRLF are not -/
example : parseDone [100, 79, 110, 69, 13, 10, 65] = some (true, [65]) ∧ parseDone [68, 79, 78, 69, 32, 13, 10] = some (false, []) ∧
    parseDone [68, 79, 78, 69, 13, 13, 10] = some (false, []) ∧ parseDone [68, 79, 78, 69] = none := by decide

end Pymap.C16
