import PymapProofs.Lemmas.ModUtf7
/-!
# C18 — every mailbox name is reported back as a modified-UTF-7 spelling that decodes to the same name
-/
namespace Pymap.C18
open Pymap.ModUtf7

theorem amp_printable : printable amp = true := by decide
theorem amp_ne_dash : amp ≠ dash := by decide

theorem decode_plain (m b : Nat) (r : List Nat) (h : b ≠ amp) :
    decode (m+1) (b :: r) = (decode m r).map (fun t => b :: t) := by
  rw [decode.eq_def]; simp only [h, if_false]

theorem decode_ampdash (m : Nat) (r : List Nat) :
    decode (m+1) (amp :: dash :: r) = (decode m r).map (fun t => amp :: t) := by
  rw [decode.eq_def]; simp only [if_true]

theorem decode_shift (m d : Nat) (r : List Nat) (hd : d ≠ dash) :
    decode (m+1) (amp :: d :: r) =
      (match (spanDash (d :: r)).2 with
       | _ :: rest => (decodeRun (spanDash (d :: r)).1).bind (fun run => (decode m rest).map (fun t => run ++ t))
       | [] => decodeRun (spanDash (d :: r)).1) := by
  rw [decode.eq_def]; simp only [if_true, hd, if_false]; rfl

theorem decode_run (m : Nat) (enc rest : List Nat) (hne : enc ≠ []) (hnd : ∀ b ∈ enc, b ≠ dash) :
    decode (m+1) (amp :: (enc ++ dash :: rest)) =
      (decodeRun enc).bind (fun run => (decode m rest).map (fun t => run ++ t)) := by
  obtain ⟨d, enc', rfl⟩ := List.exists_cons_of_ne_nil hne
  have hp : ∀ b ∈ d :: enc', (b != dash) = true := fun b hb => bne_iff_ne.2 (hnd b hb)
  rw [List.cons_append, decode_shift _ _ _ (hnd d (List.mem_cons_self ..)), ← List.cons_append,
    scanner_append spanDash_eq hp rfl]

/-- `n` is the fuel of `encode`, `m` that of `decode`: any amounts above the lengths will do -/
theorem modutf7_roundtrip (n : Nat) (cps : List Nat) (hlen : cps.length < n) (hs : ∀ c ∈ cps, scalar c = true)
    (m : Nat) (hm : (encode n cps).length < m) : decode m (encode n cps) = some cps := by
  induction n generalizing cps m with
  | zero => exact absurd hlen (Nat.not_lt_zero _)
  | succ n ih =>
    cases cps with
    | nil => cases m <;> rfl
    | cons c r =>
      cases m with
      | zero => exact absurd hm (Nat.not_lt_zero _)
      | succ m =>
        have ⟨hc, hsr⟩ := List.forall_mem_cons.1 hs
        have ih := fun (l : List Nat) (hl : l.length ≤ r.length) (hsc : ∀ x ∈ l, scalar x = true) hm' =>
          ih l (Nat.lt_of_le_of_lt hl (Nat.lt_of_succ_lt_succ hlen)) hsc m hm'
        rw [encode] at hm ⊢
        by_cases hamp : c = amp
        · -- `&` is written `&-`
          rw [if_pos hamp] at hm ⊢
          rw [hamp, decode_ampdash, ih r (Nat.le_refl _) hsr (Nat.lt_of_succ_lt (Nat.lt_of_succ_lt_succ hm))]; rfl
        · rw [if_neg hamp] at hm ⊢
          by_cases hp : printable c = true
          · rw [if_pos hp] at hm ⊢
            rw [decode_plain _ _ _ hamp, ih r (Nat.le_refl _) hsr (Nat.lt_of_succ_lt_succ hm)]; rfl
          · -- a run of non-printable characters, then the rest; the run contains `c`
            rw [if_neg hp, spanRun, if_neg hp] at hm ⊢
            have hcat := scanner_fst_append_snd spanRun_eq r
            have hsc := List.forall_mem_append.1 (hcat.symm ▸ hsr)
            -- the rest is a sublist of what was written
            have hm' := Nat.lt_of_le_of_lt ((List.sublist_cons_self _ _).trans (List.sublist_append_right _ _)).length_le
              (Nat.lt_of_succ_lt_succ hm)
            rw [decode_run _ _ _ (encodeRun_ne_nil _ (List.cons_ne_nil _ _)) (fun b hb => (encodeRun_bounds _ b hb).2),
              decodeRun_encodeRun _ (List.forall_mem_cons.2 ⟨hc, hsc.1⟩), ih _ (scanner_snd_length_le spanRun_eq r) hsc.2 hm']
            exact congrArg (fun l => some (c :: l)) hcat

/-- **Round trip.** For every name made of Unicode scalar values (any control characters, `&`, quotes,
delimiters, non-ASCII, astral characters), the spelling reported by LIST/STATUS decodes to the name. -/
theorem C18_modutf7 (name : List Nat) (h : ∀ c ∈ name, scalar c = true) :
    decodeName (encodeName name) = some name :=
  modutf7_roundtrip (name.length + 1) name (Nat.lt_succ_self _) h _ (Nat.lt_succ_self _)

/-- the reported spelling is printable ASCII only (so it can always be sent as an atom or quoted string) -/
theorem C18_encode_ascii : ∀ (n : Nat) (cps : List Nat), ∀ b ∈ encode n cps, printable b = true := by
  intro n cps
  fun_induction encode n cps with
  | case1 | case2 => nofun                       -- out of fuel, or nothing left to write
  | case3 _ _ ih =>                                                -- `&`, written `&-`
    exact List.forall_mem_cons.2 ⟨amp_printable, List.forall_mem_cons.2 ⟨by decide, ih⟩⟩
  | case4 _ _ _ _ hp ih => exact List.forall_mem_cons.2 ⟨hp, ih⟩   -- a printable byte, written as it is
  | case5 _ _ _ _ _ _ ih =>                                        -- a run of other characters: `&`, its base64, `-`
    exact List.forall_mem_cons.2 ⟨amp_printable, List.forall_mem_append.2
      ⟨fun b hb => (encodeRun_bounds _ b hb).1, List.forall_mem_cons.2 ⟨by decide, ih⟩⟩⟩

/-- **The decoder terminates on every byte string.** The fuel `length + 1` the model runs with is never
what decides the result: any larger fuel gives the same answer — every recursive call is on a strictly
shorter input.  (The loop of the code as found makes no progress on an unterminated `&`, defect D9.) -/
theorem C06_modutf7_total : ∀ (m1 m2 : Nat) (b : List Nat), b.length < m1 → b.length < m2 →
    decode m1 b = decode m2 b := by
  intro m1
  induction m1 with
  | zero => intro _ _ h; exact absurd h (Nat.not_lt_zero _)
  | succ m1 ih =>
    intro m2 b h1 h2
    cases m2 with
    | zero => exact absurd h2 (Nat.not_lt_zero _)
    | succ m2 =>
      cases b with
      | nil => rfl
      | cons b r =>
        have ih := fun (l : List Nat) (hl : l.length ≤ r.length) =>
          ih m2 l (Nat.lt_of_le_of_lt hl (Nat.lt_of_succ_lt_succ h1)) (Nat.lt_of_le_of_lt hl (Nat.lt_of_succ_lt_succ h2))
        by_cases hamp : b = amp
        · subst hamp
          cases r with
          | nil => rfl
          | cons d r' =>
            by_cases hd : d = dash
            · rw [hd, decode_ampdash, decode_ampdash, ih r' (Nat.le_succ _)]
            · rw [decode_shift _ _ _ hd, decode_shift _ _ _ hd]
              have hl := scanner_snd_length_le spanDash_eq (d :: r')
              split
              · rw [ih _ (by rw [‹(spanDash (d :: r')).2 = _›] at hl; exact Nat.le_of_succ_le hl)]
              · rfl
        · rw [decode_plain _ _ _ hamp, decode_plain _ _ _ hamp, ih r (Nat.le_refl _)]

example : encodeName [97, 10, 98] = [97, 38, 65, 65, 111, 45, 98] ∧
          decodeName [97, 38, 65, 65, 111, 45, 98] = some [97, 10, 98] ∧
          decodeName [38, 65, 79, 107] = some [233] := by decide

end Pymap.C18
