import PymapProofs.Lemmas.Mailbox
/-!
# C04 — UIDs are strictly increasing, never reused, and truthfully reported (dict backend part)
-/
namespace Pymap.C04
open Pymap.Mailbox Pymap.ModSeq

/-- every mutation of one mailbox object, in the order the store sees them (any sessions, any schedule) -/
inductive MOp
  | push (flags : List Nat) (recent : Bool) (cid date : Nat)     -- APPEND / COPY / MOVE destination / delivery
  | store (u : Nat) (f : List Nat)
  | delete (us : List Nat)                                        -- EXPUNGE / MOVE source
deriving Repr

/-- run the operations, collecting the UIDs handed out, in order -/
def runM : MBox → List MOp → MBox × List Nat
  | b, [] => (b, [])
  | b, .push fl r c d :: ops =>
    let p := push b fl r c d
    let rest := runM p.1 ops
    (rest.1, p.2 :: rest.2)
  | b, .store u f :: ops => runM (updateFlags b u (fun _ => f)) ops
  | b, .delete us :: ops => runM (delete b us) ops

/-- `MailboxSnapshot.next_uid` as computed by `snapshot()` -/
def uidNext (b : MBox) : Nat := b.maxUid + 1

/-- **monotone, never reused**: whatever happens to the mailbox — including expunging the highest
message and appending again — every UID handed out exceeds every UID handed out before it and every
UID that existed before, and the counter only grows -/
theorem C04_uid_monotone : ∀ (ops : List MOp) (b : MBox),
    let r := runM b ops
    r.2.Pairwise (· < ·) ∧ (∀ a ∈ r.2, b.maxUid < a ∧ a ≤ r.1.maxUid) ∧ b.maxUid ≤ r.1.maxUid := by
  intro ops
  induction ops with
  | nil => exact fun b => ⟨.nil, nofun, Nat.le_refl _⟩
  | cons op ops ih =>
    intro b
    cases op with
    | push fl rc c d =>
      obtain ⟨i1, i2, i3⟩ := ih (push b fl rc c d).1
      have i3 : b.maxUid + 1 ≤ _ := i3  -- `(push b …).1.maxUid` is `b.maxUid + 1`
      refine ⟨List.pairwise_cons.2 ⟨fun a ha => (i2 a ha).1, i1⟩, fun a ha => ?_, Nat.le_of_succ_le i3⟩
      rcases List.mem_cons.1 ha with rfl | ha
      · exact ⟨Nat.lt_succ_self _, i3⟩
      · exact ⟨Nat.lt_of_succ_lt (i2 a ha).1, (i2 a ha).2⟩
    | store u f =>
      have ih := ih (updateFlags b u (fun _ => f))
      rw [updateFlags_maxUid] at ih
      exact ih
    | delete us => exact ih (delete b us)

/-- **UIDNEXT is truthful**: greater than every existing UID, and exactly the next UID assigned -/
theorem C04_uidnext (b : MBox) (h : MBoxInv b) (fl : List Nat) (r : Bool) (c d : Nat) :
    (∀ u ∈ b.uids, u < uidNext b) ∧ (push b fl r c d).2 = uidNext b :=
  ⟨fun u hu => Nat.lt_succ_of_le (h.le u hu), rfl⟩

/-- the UID reported by APPENDUID / as COPYUID destination is the one the message is stored under -/
theorem C04_appenduid (b : MBox) (fl : List Nat) (r : Bool) (c d : Nat) :
    ∃ m ∈ (push b fl r c d).1.msgs, m.uid = (push b fl r c d).2 ∧ m.cid = c ∧ m.flags = fl :=
  ⟨⟨b.maxUid + 1, fl, r, c, d⟩, by simp [push], rfl, rfl, rfl⟩

/-- COPYUID pairing: the response code sorts (and range-compresses) the source UIDs and the
destination UIDs *separately*; because sources are visited in ascending order and destinations are
handed out in ascending order, the i-th of one still belongs to the i-th of the other.  (Over `Sync.sortAsc`, the sort of the dict
backend's model; `C03_copyuid_pairs` in `C03_copyuid.lean` is the same fact over `CopyUid.sortNat`, which inserts differently on unsorted input.) -/
theorem C04_copyuid_pairing (pairs : List (Nat × Nat))
    (hs : (pairs.map (·.1)).Pairwise (· < ·)) (hd : (pairs.map (·.2)).Pairwise (· < ·)) :
    (Sync.sortAsc (pairs.map (·.1))).zip (Sync.sortAsc (pairs.map (·.2))) = pairs := by
  rw [Sync.sortAsc_of_sorted hs, Sync.sortAsc_of_sorted hd, ← List.unzip_fst, ← List.unzip_snd, List.zip_unzip]

example : (runM MBox.new [.push [] false 1 0, .push [] false 2 0, .delete [102], .push [] false 3 0]).2 = [101, 102, 103] := by
  decide

end Pymap.C04
