import PymapModel.FlagText
/-!
# C18 / C17 — a system flag means the same in any letter case, and its value is stable
-/
namespace Pymap.C18
open Pymap.FlagText

theorem up_low (b : Nat) : up (low b) = up b := by
  unfold low; split
  · -- an upper-case letter: `b + 32` is a lower-case one, which `up` takes back to `b`
    rw [up, if_pos (by omega), Nat.add_sub_cancel, up, if_neg (by omega)]
  · rfl

theorem low_up (b : Nat) : low (up b) = low b := by
  unfold up; split
  · rw [low, if_pos (by omega), Nat.sub_add_cancel (by omega), low, if_neg (by omega)]
  · rfl

theorem low_low (b : Nat) : low (low b) = low b := if_neg (by unfold low; split <;> omega)
theorem up_up (b : Nat) : up (up b) = up b := if_neg (by unfold up; split <;> omega)

theorem capitalize_idem : ∀ l : List Nat, capitalize (capitalize l) = capitalize l
  | [] => rfl
  | b :: r => by simp [capitalize, up_up, low_low]

/-- a keyword is known by exactly its bytes -/
theorem C18_flag_keyword (l : List Nat) (h : ∀ r, l ≠ 92 :: r) : norm l = l := by
  unfold norm
  split
  · rename_i r; exact absurd rfl (h r)
  · rfl

/-- the value is stable: writing a flag and reading it again gives the same flag -/
theorem C18_flag_norm_idem (l : List Nat) : norm (norm l) = norm l := by
  by_cases h : ∃ r, l = 92 :: r
  · obtain ⟨r, rfl⟩ := h
    exact congrArg (92 :: ·) (capitalize_idem r)
  · have := C18_flag_keyword l fun r e => h ⟨r, e⟩
    rw [this, this]

/-- **case-insensitive**: two spellings of a system flag that differ in letter case only are the same flag — same value, hence
equal and with the same hash (the seeded change C17-f hashed the spelling as typed) -/
theorem C18_flag_case_insensitive (a b : List Nat) (h : a.map low = b.map low) : norm (92 :: a) = norm (92 :: b) := by
  show 92 :: capitalize a = 92 :: capitalize b
  congr 1
  match a, b, h with
  | [], [], _ => rfl
  | x :: r, y :: s, h =>
    rw [List.map_cons, List.map_cons, List.cons.injEq] at h
    -- the first letters have the same upper case because they have the same lower case
    show up x :: r.map low = up y :: s.map low
    rw [← up_low x, h.1, up_low, h.2]

/-- non-vacuity: `\RECENT`, `\recent` and `\Recent` are one flag; `recent` is a keyword -/
example : norm [92, 82, 69, 67, 69, 78, 84] = [92, 82, 101, 99, 101, 110, 116] ∧ norm [92, 114, 101, 99, 101, 110, 116] = [92, 82, 101, 99, 101, 110, 116] ∧
    norm [114, 101, 99] = [114, 101, 99] := by decide

end Pymap.C18
