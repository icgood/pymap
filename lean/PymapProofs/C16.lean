import PymapModel.Idle
import PymapProofs.Lemmas.Run
/-!
# C16 — IDLE delivers every change without further stimulus
-/
namespace Pymap.C16
open Pymap.Idle

/-- The idler parks (`wait`) only on an armed event (`armed`); while that has not fired, everything is consumed and the client has not
sent DONE (`parked`), so nothing can be missed; between arming and waking, what is written is what is consumed (`inSync`). -/
structure Inv (s : St) : Prop where
  le       : s.consumed ≤ s.highest
  armed    : s.pc = .wait → s.fired ≠ none
  parked   : s.pc = .wait → s.fired = some false → s.consumed = s.highest ∧ s.done = false
  inSync   : (s.pc = .arm ∨ s.pc = .wait) → s.written = s.consumed
  exited   : s.pc = .exit → s.done = true

theorem Inv.init : Inv St.init := ⟨Nat.le_refl _, nofun, nofun, fun _ => rfl, nofun⟩

theorem fire_ne_none {f : Option Bool} (h : f ≠ none) : fire f ≠ none := by
  cases f with
  | none => exact absurd rfl h
  | some _ => nofun
theorem fire_ne_false (f : Option Bool) : fire f ≠ some false := by
  cases f <;> simp [fire]

/-- a change of the mailbox and the client's DONE both fire the armed event, after which `parked` asks nothing -/
theorem Inv.wake {s : St} (h : Inv s) {highest : Nat} {done : Bool} (hle : s.consumed ≤ highest)
    (hd : s.done = true → done = true) : Inv { s with highest := highest, done := done, fired := fire s.fired } where
  le := hle
  armed := fun hp => fire_ne_none (h.armed hp)
  parked := fun _ hf => absurd hf (fire_ne_false _)
  inSync := h.inSync
  exited := fun hp => hd (h.exited hp)

theorem Inv.change {s : St} (h : Inv s) : Inv { s with highest := s.highest + 1, fired := fire s.fired } :=
  h.wake (Nat.le_succ_of_le h.le) id

theorem Inv.idler {s s' : St} (h : Inv s) (hs : idlerStep true s = some s') : Inv s' := by
  revert hs
  fun_cases idlerStep true s with
  | case1 hpc hd =>                       -- `arm`, the client has sent DONE: exit
    rintro ⟨⟩
    exact ⟨h.le, nofun, nofun, nofun, fun _ => hd⟩
  | case2 | case4 =>                      -- `arm` with a change pending, `wait` with the event fired: go and consume
    rintro ⟨⟩
    exact ⟨h.le, nofun, nofun, nofun, nofun⟩
  | case3 hpc hd hc =>                    -- `arm`, nothing is pending and the client has not sent DONE: it may park
    rintro ⟨⟩
    have hc : ¬ s.consumed < s.highest := by simpa using hc
    exact ⟨h.le, fun _ => nofun, fun _ _ => ⟨Nat.le_antisymm h.le (Nat.le_of_not_lt hc), Bool.eq_false_iff.2 hd⟩,
      fun _ => h.inSync (Or.inl hpc), nofun⟩
  | case5 | case8 => nofun                -- parked, or exited: no step
  | case6 =>                              -- `consume`
    rintro ⟨⟩
    exact ⟨Nat.le_refl _, nofun, nofun, nofun, nofun⟩
  | case7 =>                              -- `write`
    rintro ⟨⟩
    exact ⟨h.le, nofun, nofun, fun _ => rfl, nofun⟩

theorem Inv.step {s s' : St} (l : Label) (h : Inv s) (hs : Idle.step true s l = some s') : Inv s' := by
  cases l with
  | change => cases hs; exact h.change
  | clientDone => cases hs; exact h.wake h.le fun _ => rfl
  | idler => exact h.idler hs

theorem _root_.Pymap.Idle.isRun (repaired : Bool) : IsRun (Idle.step repaired) (Idle.run repaired) := ⟨fun _ => rfl, fun _ _ _ => rfl⟩

theorem Inv.run {s s' : St} (ls : List Label) (h : Inv s) (hs : Idle.run true s ls = some s') : Inv s' :=
  (Idle.isRun true).inv (fun _ l _ h hs => h.step l hs) hs h

/-- **no lost wake-up**: in every reachable state, an idler parked on an unfired event has consumed
and written everything there is -/
theorem C16_no_lost_wakeup (ls : List Label) (s : St) (hs : run true St.init ls = some s)
    (hp : s.pc = .wait) (hf : s.fired = some false) : s.consumed = s.highest ∧ s.written = s.highest := by
  have h := Inv.init.run ls hs
  have := h.parked hp hf
  exact ⟨this.1, by rw [h.inSync (Or.inr hp)]; exact this.1⟩

theorem drain_succ {r : Bool} {s s' : St} (h : idlerStep r s = some s') (n : Nat) : drain r (n + 1) s = drain r n s' := by
  simp only [drain, h]

theorem drain_parked {r : Bool} {s : St} (h : idlerStep r s = none) (n : Nat) : drain r n s = s := by
  cases n <;> simp only [drain, h]

/-! The idler's own steps that suffice from each pc, with nothing else happening: none from `arm` in sync, one from `write`,
two from `consume`, three from `arm` behind the mailbox. -/

theorem drain_arm_synced (n : Nat) (s : St) (hpc : s.pc = .arm) (hd : s.done = false)
    (hc : s.consumed = s.highest) (hw : s.written = s.consumed) : (drain true n s).written = s.highest := by
  cases n with
  | zero => exact hw.trans hc
  | succ n =>
    rw [drain_succ (s' := { s with pc := .wait, fired := some false }) (by simp [idlerStep, hpc, hd, hc]),
      drain_parked rfl]
    exact hw.trans hc

theorem drain_write (n : Nat) (s : St) (hpc : s.pc = .write) (hd : s.done = false)
    (hc : s.consumed = s.highest) : (drain true (n+1) s).written = s.highest := by
  rw [drain_succ (s' := { s with written := s.consumed, pc := .arm }) (by simp [idlerStep, hpc])]
  exact drain_arm_synced n _ rfl hd hc rfl

theorem drain_consume (n : Nat) (s : St) (hpc : s.pc = .consume) (hd : s.done = false) :
    (drain true (n+2) s).written = s.highest := by
  rw [drain_succ (s' := { s with consumed := s.highest, pc := .write }) (by simp [idlerStep, hpc])]
  exact drain_write n _ rfl hd rfl

theorem drain_arm (n : Nat) (s : St) (hpc : s.pc = .arm) (hd : s.done = false) (hle : s.consumed ≤ s.highest)
    (hw : s.written = s.consumed) : (drain true (n+3) s).written = s.highest := by
  by_cases hc : s.consumed < s.highest
  · rw [drain_succ (s' := { s with pc := .consume, fired := none }) (by simp [idlerStep, hpc, hd, hc])]
    exact drain_consume n _ rfl hd
  · exact drain_arm_synced _ s hpc hd (Nat.le_antisymm hle (Nat.le_of_not_lt hc)) hw

/-- four steps are needed from `write` when a change has landed since `consume`: those at `write`, `arm`, `consume` and `write` again -/
theorem Inv.delivers {s : St} (h : Inv s) (hd : s.done = false) : (drain true 4 s).written = s.highest := by
  cases hpc : s.pc with
  | arm => exact drain_arm 1 s hpc hd h.le (h.inSync (Or.inl hpc))
  | wait =>
    cases hf : s.fired with
    | none => exact absurd hf (h.armed hpc)
    | some b =>
      cases b with
      | true =>
        rw [drain_succ (s' := { s with pc := .consume, fired := none }) (by simp [idlerStep, hpc, hf])]
        exact drain_consume 1 _ rfl hd
      | false =>
        rw [drain_parked (by simp [idlerStep, hpc, hf]), h.inSync (Or.inr hpc)]
        exact (h.parked hpc hf).1
  | consume => exact drain_consume 2 s hpc hd
  | write =>
    rw [drain_succ (s' := { s with written := s.consumed, pc := .arm }) (by simp [idlerStep, hpc])]
    exact drain_arm 0 _ rfl hd h.le rfl
  | exit => exact absurd (h.exited hpc) (by rw [hd]; nofun)

/-- **progress**: from any reachable state, with no further mailbox activity and no client input,
the idler's own steps (at most four) bring every change to the client -/
theorem C16_progress (ls : List Label) (s : St) (hs : run true St.init ls = some s) (hd : s.done = false) :
    (drain true 4 s).written = s.highest :=
  (Inv.init.run ls hs).delivers hd

/-- the code as found loses a wake-up: a change that lands while the idler is writing the previous
notification is never delivered (the idler parks on an unfired event with the change unwritten) -/
theorem C16_lost_wakeup_as_found :
    ∃ s, run false St.init [.idler, .change, .idler, .idler, .change, .idler, .idler] = some s ∧
      s.pc = .wait ∧ s.fired = some false ∧ s.written < s.highest ∧ idlerStep false s = none := by
  decide

end Pymap.C16
